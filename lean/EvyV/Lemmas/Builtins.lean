import EvyV.Model.Builtins
/-!
`callBuiltin` (Model/Builtins.lean) at a literal name. The proofs are `by rfl`: `whnf` walks the
59-way match on the name, which is several times faster than rewriting with the definition, so no
proof puts `callBuiltin` into a simp set. The equations state what a built-in computes on arguments
in canonical form, for the built-ins whose result still depends on a further case distinction.
-/
namespace EvyV

variable {F : Type} (ops : NumOps F) (ext : Ext F)

theorem ofList_lit (s : String) : String.ofList (lit s) = s := String.ofList_toList

theorem callBuiltin_none (name : Str) (vs : List (Val F)) (st : St F) (h : isBuiltin name = false) :
    callBuiltin ops ext name vs st = none :=
  if_pos (by rw [h]; rfl)

variable (st : St F) (t : Ty) (a : Nat) (x : Str) (u : F)

theorem callBuiltin_len_arr : callBuiltin ops ext (lit "len") [.any t (.arr a)] st = some (match heapGet st a with
    | some (.arr elems) => .ok (.num (ops.ofInt elems.length)) st
    | _ => gp "len: heap" st) := by rfl

theorem callBuiltin_len_map : callBuiltin ops ext (lit "len") [.any t (.map a)] st = some (match heapGet st a with
    | some (.map m) => .ok (.num (ops.ofInt m.len)) st
    | _ => gp "len: heap" st) := by rfl

theorem callBuiltin_has : callBuiltin ops ext (lit "has") [.map a, .str x] st = some (match heapGet st a with
    | some (.map m) => .ok (.bool (m.has x)) st
    | _ => gp "has: heap" st) := by rfl

theorem callBuiltin_del : callBuiltin ops ext (lit "del") [.map a, .str x] st = some (match heapGet st a with
    | some (.map m) => .ok .none (heapSet st a (.map (m.delete x)))
    | _ => gp "del: heap" st) := by rfl

theorem callBuiltin_join : callBuiltin ops ext (lit "join") [.arr a, .str x] st = some (match heapGet st a with
    | some (.arr elems) =>
      match joinVals ops st elems x with
      | some s => .ok (.str s) st
      | none => .err .timeout st
    | _ => gp "join: heap" st) := by rfl

theorem callBuiltin_font : callBuiltin ops ext (lit "font") [.map a] st = some (match heapGet st a with
    | some (.map m) =>
      match fontProps ops m with
      | .ok props => .ok .none (emit st (.gfx "font" props))
      | .error o => .err o st
    | _ => gp "font: heap" st) := by rfl

theorem callBuiltin_print (vs : List (Val F)) : callBuiltin ops ext (lit "print") vs st = some (match joinVals ops st vs [' '] with
    | some s => .ok .none (emit st (.print (s ++ ['\n'])))
    | none => .err .timeout st) := by rfl

theorem callBuiltin_sprint (vs : List (Val F)) : callBuiltin ops ext (lit "sprint") vs st = some (match joinVals ops st vs [' '] with
    | some s => .ok (.str s) st
    | none => .err .timeout st) := by rfl

theorem callBuiltin_repr (vs : List (Val F)) : callBuiltin ops ext (lit "repr") vs st =
    some (match reprList ops ext st.heap (auxFuel st) vs with
    | some (l, ms) => .ok (.str (joinWith [' '] l)) { st with misses := ms ++ st.misses }
    | none => .err .timeout st) := by rfl

theorem callBuiltin_str2bool : callBuiltin ops ext (lit "str2bool") [.str x] st = some (match parseBool x with
    | some b => .ok (.bool b) (setGlobalErr st false [])
    | none =>
      let (q, st') := callExt ext st "quote" [.str x] [.str []]
      .ok (.bool false) (setGlobalErr st' true (lit "str2bool: cannot parse " ++ xstr q))) := by rfl

theorem callBuiltin_str2num : callBuiltin ops ext (lit "str2num") [.str x] st = some (
    let (r, st') := callExt ext st "parsefloat" [.str x] [.num ops.zero, .bool true]
    match r with
    | [.num n, .bool true] => .ok (.num n) (setGlobalErr st' false [])
    | [.num n, .bool false] =>
      let (q, st'') := callExt ext st' "quote" [.str x] [.str []]
      .ok (.num n) (setGlobalErr st'' true (lit "str2num: cannot parse " ++ xstr q))
    | _ => .err (.internal "bad oracle answer") st') := by rfl

theorem callBuiltin_rand : callBuiltin ops ext (lit "rand") [.num u] st = some (
    if !(ops.le ops.one u && ops.le u (ops.ofInt 2147483647)) then badArgs st
    else
      let (r, st') := callExt ext { st with randLog := st.randLog ++ [.num u] } "rand" (st.randLog ++ [.num u]) [.num ops.zero]
      match r with
      | [.num v] => .ok (.num v) st'
      | _ => .err (.internal "bad oracle answer") st') := by rfl

theorem callBuiltin_rand1 (vs : List (Val F)) : callBuiltin ops ext (lit "rand1") vs st = some (
    let (r, st') := callExt ext { st with randLog := st.randLog ++ [.bool true] } "rand" (st.randLog ++ [.bool true]) [.num ops.zero]
    match r with
    | [.num v] => .ok (.num v) st'
    | _ => .err (.internal "bad oracle answer") st') := by rfl

theorem callBuiltin_read (vs : List (Val F)) : callBuiltin ops ext (lit "read") vs st = some (match st.input with
    | l :: rest => .ok (.str l) { emit st .read with input := rest }
    | [] => .ok (.str []) (emit st .read)) := by rfl

/-- `printf` (`p = true`) and `sprintf` with a format string -/
theorem callBuiltin_printf (p : Bool) (vs : List (Val F)) :
    callBuiltin ops ext (lit (if p then "printf" else "sprintf")) (.any t (.str x) :: vs) st = some (match unwrapAll ops st vs with
    | some xs =>
      let (r, st') := callExt ext st "sprintf" (.str x :: xs) [.str []]
      if p then .ok .none (emit st' (.print (xstr r))) else .ok (.str (xstr r)) st'
    | none => .err .timeout st) := by cases p <;> rfl

theorem callBuiltin_hsl (vs : List (Val F)) : callBuiltin ops ext (lit "hsl") vs st = some (match numArgs vs with
    | none => gp "hsl: assertion" st
    | some ns =>
      if ns.length < 1 || ns.length > 4 then badArgs st
      else if (ns.zip [360, 100, 100, 100]).all (fun (v, hi) => !(ops.lt v ops.zero) && !(ops.lt (ops.ofInt hi) v)) then
        forward ext st "hslfmt" ((ns ++ ([ops.ofInt 100, ops.ofInt 50, ops.ofInt 100].drop (ns.length - 1))).map XArg.num) (.str [])
      else badArgs st) := by rfl

theorem callBuiltin_dash (vs : List (Val F)) : callBuiltin ops ext (lit "dash") vs st = some (match numArgs vs with
    | some ns => .ok .none (emit st (.gfx "dash" [.nums ns]))
    | none => gp "dash: assertion" st) := by rfl

theorem callBuiltin_gridn : callBuiltin ops ext (lit "gridn") [.num u, .str x] st = some (
    if !(ops.lt ops.zero u) then badArgs st else .ok .none (emit st (.gfx "gridn" [.num u, .str x]))) := by rfl

theorem callBuiltin_poly (vs : List (Val F)) : callBuiltin ops ext (lit "poly") vs st = some (match callBuiltin.verts st vs with
    | .ok l => .ok .none (emit st (.gfx "poly" [.nums l]))
    | .error o => .err o st) := by rfl

theorem callBuiltin_ellipse (vs : List (Val F)) : callBuiltin ops ext (lit "ellipse") vs st = some (match numArgs vs with
    | none => gp "ellipse: assertion" st
    | some ns =>
      if ns.length < 3 || ns.length == 6 || ns.length > 7 then badArgs st
      else
        match ns with
        | x :: y :: rx :: rest =>
          .ok .none (emit st (.gfx "ellipse" ([x, y, rx, match rest with | r :: _ => r | [] => rx,
            match rest with | _ :: r :: _ => r | _ => ops.zero,
            (match rest with | [_, _, s, e] => (s, e) | _ => (ops.zero, ops.ofInt 360)).1,
            (match rest with | [_, _, s, e] => (s, e) | _ => (ops.zero, ops.ofInt 360)).2].map XArg.num)))
        | _ => badArgs st) := by rfl

theorem callBuiltin_clear (vs : List (Val F)) : callBuiltin ops ext (lit "clear") vs st = some (match vs with
    | [] => .ok .none (emit st (.gfx "clear" [.str []]))
    | [.str c] => .ok .none (emit st (.gfx "clear" [.str c]))
    | [_] => gp "clear: assertion" st
    | _ => badArgs st) := by rfl

theorem callBuiltin_test (vs : List (Val F)) : callBuiltin ops ext (lit "test") vs st = some (match vs with
    | [] => badArgs st
    | [.any _ (.bool b)] => if b then .ok .none st else .err (.internal "ErrTest") st
    | [.any _ _] => badArgs st
    | [_] => gp "test: anyVal assertion" st
    | want :: got :: rest =>
      match (match rest with
        | [] => some true
        | .any _ (.str _) :: _ => some true
        | .any _ _ :: _ => some false
        | _ => none : Option Bool) with
      | none => gp "test: anyVal assertion" st
      | some false => badArgs st
      | some true => if same ops st.heap (auxFuel st) want got then .ok .none st else .err (.internal "ErrTest") st) := by rfl

end EvyV
