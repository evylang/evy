import EvyV.Model.Eval
import EvyV.Lemmas.MapVal
/-!
What the primitives of Model/Eval.lean do: the tick (stop check and yield), scopes as Go maps, allocation.
-/
namespace EvyV
variable {F : Type}

theorem tick_stopped (st : St F) (h : st.stopped = true) : tick st = none := by
  simp [tick, h]

theorem tick_eq {st st' : St F} (h : tick st = some st') :
    st.stopped = false ∧ st' = { st with yields := st.yields + 1, stopped := (st.stopAt == some (st.yields + 1)) } := by
  unfold tick at h
  cases hs : st.stopped <;> simp [hs] at h
  exact ⟨rfl, h.symm⟩

theorem tick_running (st : St F) (h : st.stopped = false) :
    tick st = some { st with yields := st.yields + 1, stopped := (st.stopAt == some (st.yields + 1)) } := by
  simp [tick, h]

theorem pop_push (st : St F) : popScope (pushScope st) = st := by
  simp [popScope, pushScope]

theorem scopeSet_eq (sc : Scope F) (n : Str) (v : Val F) : scopeSet sc n v = GoMap.set sc n v := by
  induction sc with
  | nil => rfl
  | cons q rest ih => simp only [scopeSet, GoMap.set, ih]

theorem scopeGet_scopeSet (s : Scope F) (n m : Str) (v : Val F) :
    scopeGet (scopeSet s n v) m = if m = n then some v else scopeGet s m :=
  scopeSet_eq s n v ▸ GoMap.lookup_set s n m v

theorem alloc_addr (st : St F) (o : Obj F) : (alloc st o).1 = st.heap.size := rfl

theorem alloc_fresh (st : St F) (o : Obj F) :
    heapGet st (alloc st o).1 = none ∧
    (∀ a, a < st.heap.size → heapGet (alloc st o).2 a = heapGet st a) ∧
    (alloc st o).2.heap.size = st.heap.size + 1 := by
  refine ⟨by simp [heapGet, alloc], ?_, by simp [alloc]⟩
  intro a ha
  simp [heapGet, alloc, Array.getElem?_push, Nat.ne_of_lt ha]

theorem alloc_other (st : St F) (o : Obj F) :
    (alloc st o).2.locals = st.locals ∧ (alloc st o).2.global = st.global ∧ (alloc st o).2.trace = st.trace ∧
    (alloc st o).2.yields = st.yields := by
  simp [alloc]

end EvyV
