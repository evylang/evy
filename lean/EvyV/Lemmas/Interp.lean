import EvyV.Model.Interp
import EvyV.Lemmas.Eval
/-!
The interpreter of Model/Interp.lean in bind form: one equation per function for one unit of step budget, with every
"evaluate, on error pass the error on" written as `Res.bind` and every "pop the scope / restore the locals on all
exits" as `Res.mapSt`. An invariant then walks the interpreter with one rule for `Res.bind`.
-/
namespace EvyV
variable {F : Type}

def Res.bind {α β : Type} (r : Res F α) (k : α → St F → Res F β) : Res F β :=
  match r with
  | .ok a s => k a s
  | .err o s => .err o s

def Res.mapSt {α : Type} (f : St F → St F) : Res F α → Res F α
  | .ok v s => .ok v (f s)
  | .err o s => .err o (f s)

def Res.st {α : Type} : Res F α → St F
  | .ok _ s => s
  | .err _ s => s

@[simp] theorem Res.bind_ok {α β : Type} (a : α) (s : St F) (k : α → St F → Res F β) : (Res.ok a s).bind k = k a s := rfl

variable (ops : NumOps F) (ext : Ext F) (prog : Program F)

def tickR (st : St F) : Res F Unit :=
  match tick st with
  | none => .err .stopped st
  | some st' => .ok () st'

theorem tickR_elim {T : Res F Unit → Prop} (st : St F) (herr : tick st = none → T (.err .stopped st))
    (hok : ∀ st', tick st = some st' → T (.ok () st')) : T (tickR st) := by
  unfold tickR
  cases h : tick st with
  | none => exact herr h
  | some st' => exact hok st' h

theorem evalE_succ (n : Nat) (e : Expr F) (st0 : St F) :
    evalE ops ext prog (n + 1) e st0 = (tickR st0).bind fun _ st =>
      match e with
      | .num v => .ok (.num v) st
      | .str s => .ok (.str s) st
      | .bool b => .ok (.bool b) st
      | .var n =>
        match getVar st n with
        | some v => .ok v st
        | none => .err (.panic .varNotSet) st
      | .any t inner => (evalE ops ext prog n inner st).bind fun v st' =>
        match v with
        | .any _ _ => .err (.goPanic "nested any value") st'
        | v => .ok (.any t v) st'
      | .arr elems => (evalList ops ext prog n elems st).bind fun vs st' =>
        .ok (.arr (alloc st' (.arr vs)).1) (alloc st' (.arr vs)).2
      | .mapLit pairs => (evalPairs ops ext prog n pairs st).bind fun ps st' =>
        .ok (.map (alloc st' (.map (MapVal.ofLiteral ps))).1) (alloc st' (.map (MapVal.ofLiteral ps))).2
      | .call name args => evalCall ops ext prog n name args st
      | .group inner => evalE ops ext prog n inner st
      | .unary op inner => (evalE ops ext prog n inner st).bind fun v st' =>
        match v with
        | .num v => if op = .minus then .ok (.num (ops.neg v)) st' else .err (.internal "ErrOperation (unary)") st'
        | .bool b => if op = .bang then .ok (.bool (!b)) st' else .err (.internal "ErrOperation (unary)") st'
        | _ => .err (.internal "ErrOperation (unary)") st'
      | .binary op l r => (evalE ops ext prog n l st).bind fun left st' =>
        if canShortCircuit op left then applyBinary ops ext st' op left left
        else (evalE ops ext prog n r st').bind fun right st'' => applyBinary ops ext st'' op left right
      | .index l i => (evalE ops ext prog n l st).bind fun left st' =>
        (evalE ops ext prog n i st').bind fun idx st'' => indexVal ops st'' left idx
      | .slice l s e => (evalE ops ext prog n l st).bind fun left st' =>
        (evalOpt ops ext prog n s st').bind fun sv st'' =>
        (evalOpt ops ext prog n e st'').bind fun ev st3 => sliceVal ops st3 left sv ev
      | .dot l key => (evalE ops ext prog n l st).bind fun v st' =>
        match v with
        | .map a =>
          match heapGet st' a with
          | some (.map m) =>
            match m.get key with
            | some v => .ok v st'
            | none => .err (.panic .mapKey) st'
          | _ => .err (.goPanic "dot: heap") st'
        | _ => .err (.internal "ErrType: dot") st'
      | .assert t inner => (evalE ops ext prog n inner st).bind fun v st' =>
        match v with
        | .any dynT v => if dynT.equals t then .ok v st' else .err (.panic .anyConversion) st'
        | _ => .err (.panic .anyConversion) st' := by
  rw [evalE, tickR]
  cases tick st0 with
  | none => rfl
  | some st =>
    cases e with
    | num | str | bool | var | call | group => rfl
    | any _ inner | unary _ inner | dot inner _ | assert _ inner =>
      dsimp only [Res.bind_ok]; cases evalE ops ext prog n inner st with | err => rfl | ok v => cases v <;> rfl
    | arr elems => dsimp only [Res.bind_ok]; cases evalList ops ext prog n elems st <;> rfl
    | mapLit pairs => dsimp only [Res.bind_ok]; cases evalPairs ops ext prog n pairs st <;> rfl
    | binary op l r =>
      dsimp only [Res.bind_ok]
      cases evalE ops ext prog n l st with
      | err => rfl
      | ok left st' =>
        dsimp only [Res.bind_ok]
        split
        · rfl
        · cases evalE ops ext prog n r st' <;> rfl
    | index l i =>
      dsimp only [Res.bind_ok]
      cases evalE ops ext prog n l st with
      | err => rfl
      | ok left st' => dsimp only [Res.bind_ok]; cases evalE ops ext prog n i st' <;> rfl
    | slice l s e =>
      dsimp only [Res.bind_ok]
      cases evalE ops ext prog n l st with
      | err => rfl
      | ok left st' =>
        dsimp only [Res.bind_ok]
        cases evalOpt ops ext prog n s st' with
        | err => rfl
        | ok sv st'' => dsimp only [Res.bind_ok]; cases evalOpt ops ext prog n e st'' <;> rfl

theorem evalOpt_succ (n : Nat) (oe : Option (Expr F)) (st : St F) :
    evalOpt ops ext prog (n + 1) oe st =
      match oe with
      | none => .ok none st
      | some e => (evalE ops ext prog n e st).bind fun v st' => .ok (some v) st' := by
  cases oe with
  | none => rfl
  | some e => rw [evalOpt]; dsimp only; cases evalE ops ext prog n e st <;> rfl

theorem evalList_succ (n : Nat) (es : List (Expr F)) (st : St F) :
    evalList ops ext prog (n + 1) es st =
      match es with
      | [] => .ok [] st
      | e :: rest => (evalE ops ext prog n e st).bind fun v st' =>
        (evalList ops ext prog n rest st').bind fun vs st'' => .ok (v :: vs) st'' := by
  cases es with
  | nil => rfl
  | cons e rest =>
    rw [evalList]
    dsimp only
    cases evalE ops ext prog n e st with
    | err => rfl
    | ok v st' => dsimp only [Res.bind_ok]; cases evalList ops ext prog n rest st' <;> rfl

theorem evalPairs_succ (n : Nat) (ps : List (Str × Expr F)) (st : St F) :
    evalPairs ops ext prog (n + 1) ps st =
      match ps with
      | [] => .ok [] st
      | (k, e) :: rest => (evalE ops ext prog n e st).bind fun v st' =>
        (evalPairs ops ext prog n rest st').bind fun vs st'' => .ok ((k, v) :: vs) st'' := by
  cases ps with
  | nil => rfl
  | cons p rest =>
    obtain ⟨k, e⟩ := p
    rw [evalPairs]
    dsimp only
    cases evalE ops ext prog n e st with
    | err => rfl
    | ok v st' => dsimp only [Res.bind_ok]; cases evalPairs ops ext prog n rest st' <;> rfl

/-- Go's TestInfo bookkeeping around the `test` built-in -/
def testBook : Res F (Val F) → Res F (Val F)
  | .ok v st => .ok v { st with testTotal := st.testTotal + 1 }
  | .err o st =>
    if o = .internal "ErrTest" then
      let st3 := { st with testTotal := st.testTotal + 1, testFails := st.testFails + 1 }
      if st3.failFast then .err o st3 else .ok .none st3
    else .err o { st with testTotal := st.testTotal + 1 }

/-- the user-function branch of evalFunccall, and what HandleEvent does once the payload is bound (`handleEvent_eq`,
stated with `C15.asProc` and `C15.asRun`) -/
def callUser (n : Nat) (fd : FuncDef F) (vs : List (Val F)) (st : St F) : Res F (Val F) :=
  ((execBlockNode ops ext prog n fd.body (calleeState fd vs st)).bind fun c s =>
    .ok (match c with | .ret (some v) => v | _ => .none) s).mapSt
    fun s => { s with locals := st.locals }

namespace C15

/-- what evalFunccall does for a user-defined function once its arguments are values -/
def callTail (fuel : Nat) (fd : FuncDef F) (vs : List (Val F)) (st : St F) : Res F (Val F) :=
  match execBlockNode ops ext prog fuel fd.body (calleeState fd vs st) with
  | .err o st4 => .err o { st4 with locals := st.locals }
  | .ok (.ret (some v)) st4 => .ok v { st4 with locals := st.locals }
  | .ok _ st4 => .ok .none { st4 with locals := st.locals }

end C15

theorem callUser_eq (n : Nat) (fd : FuncDef F) (vs : List (Val F)) (st : St F) :
    callUser ops ext prog n fd vs st = C15.callTail ops ext prog n fd vs st := by
  unfold callUser C15.callTail
  cases execBlockNode ops ext prog n fd.body (calleeState fd vs st) with
  | err => rfl
  | ok c s => cases c with
    | ret v => cases v <;> rfl
    | _ => rfl

theorem evalCall_succ (n : Nat) (name : Str) (args : List (Expr F)) (st : St F) :
    evalCall ops ext prog (n + 1) name args st = (evalList ops ext prog n args st).bind fun vs st' =>
      match callBuiltin ops ext name vs st' with
      | some r => if String.ofList name = "test" then testBook r else r
      | none =>
        match lookupFunc prog.funcs name with
        | none => .err (.goPanic "evalFunccall: nil FuncDef") st'
        | some fd =>
          if vs.length < fd.params.length then .err (.goPanic "evalFunccall: args index out of range") st'
          else callUser ops ext prog n fd vs st' := by
  rw [evalCall]
  cases evalList ops ext prog n args st with
  | err => rfl
  | ok vs st' =>
    dsimp only [Res.bind_ok]
    cases callBuiltin ops ext name vs st' with
    | some r =>
      dsimp only
      split
      · unfold testBook
        split
        · rfl
        · dsimp only; rw [if_pos rfl]
        · rename_i ho; dsimp only; rw [if_neg ho]
      · rfl
    | none =>
      dsimp only
      cases lookupFunc prog.funcs name with
      | none => rfl
      | some fd =>
        dsimp only
        split
        · rfl
        · exact (callUser_eq ops ext prog n fd vs st').symm

theorem evalCall_user (n : Nat) (name : Str) (args : List (Expr F)) (st st' : St F) (vs : List (Val F)) (fd : FuncDef F)
    (ha : evalList ops ext prog n args st = .ok vs st') (hb : callBuiltin ops ext name vs st' = none)
    (hf : lookupFunc prog.funcs name = some fd) (hl : ¬ vs.length < fd.params.length) :
    evalCall ops ext prog (n + 1) name args st = callUser ops ext prog n fd vs st' := by
  rw [evalCall_succ, ha, Res.bind_ok, hb]
  dsimp only
  rw [hf]
  exact if_neg hl

theorem execBlockNode_succ (n : Nat) (b : List (Stmt F)) (st0 : St F) :
    execBlockNode ops ext prog (n + 1) b st0 = (tickR st0).bind fun _ st => execStmts ops ext prog n b st := by
  rw [execBlockNode, tickR]; cases tick st0 <;> rfl

theorem execStmts_succ (n : Nat) (b : List (Stmt F)) (st : St F) :
    execStmts ops ext prog (n + 1) b st =
      match b with
      | [] => .ok .normal st
      | s :: rest => (execS ops ext prog n s st).bind fun c st' =>
        match c with
        | .normal => execStmts ops ext prog n rest st'
        | c => .ok c st' := by
  cases b with
  | nil => rfl
  | cons s rest =>
    rw [execStmts]
    dsimp only
    cases execS ops ext prog n s st with
    | err => rfl
    | ok c => cases c <;> rfl

theorem execCond_succ (n : Nat) (c : Expr F) (body : List (Stmt F)) (st : St F) :
    execCond ops ext prog (n + 1) c body st =
      ((evalE ops ext prog n c (pushScope st)).bind fun v st' =>
        match v with
        | .bool true => (execBlockNode ops ext prog n body st').bind fun comp st'' => .ok (comp, true) st''
        | .bool false => .ok (.normal, false) st'
        | _ => .err (.internal "ErrType: conditional not a bool") st').mapSt popScope := by
  rw [execCond]
  cases evalE ops ext prog n c (pushScope st) with
  | err => rfl
  | ok v st' =>
    cases v with
    | bool b =>
      cases b with
      | false => rfl
      | true => dsimp only [Res.bind_ok]; cases execBlockNode ops ext prog n body st' <;> rfl
    | _ => rfl

theorem execIfChain_succ (n : Nat) (cs : List (Expr F × List (Stmt F))) (els : Option (List (Stmt F))) (st : St F) :
    execIfChain ops ext prog (n + 1) cs els st =
      match cs, els with
      | [], none => .ok .normal st
      | [], some body => (execBlockNode ops ext prog n body (pushScope st)).mapSt popScope
      | (c, body) :: rest, els => (execCond ops ext prog n c body st).bind fun p st' =>
        match p with
        | (comp, true) => .ok comp st'
        | (_, false) => execIfChain ops ext prog n rest els st' := by
  cases cs with
  | nil =>
    cases els with
    | none => rfl
    | some body => rw [execIfChain]; dsimp only; cases execBlockNode ops ext prog n body (pushScope st) <;> rfl
  | cons cb rest =>
    obtain ⟨c, body⟩ := cb
    rw [execIfChain]
    dsimp only
    cases execCond ops ext prog n c body st with
    | err => rfl
    | ok p => obtain ⟨comp, taken⟩ := p; cases taken <;> rfl

theorem execWhile_succ (n : Nat) (c : Expr F) (body : List (Stmt F)) (st : St F) :
    execWhile ops ext prog (n + 1) c body st = (execCond ops ext prog n c body st).bind fun p st' =>
      match p with
      | (.normal, true) => execWhile ops ext prog n c body st'
      | (.ret v, true) => .ok (.ret v) st'
      | _ => .ok .normal st' := by
  rw [execWhile]
  cases execCond ops ext prog n c body st with
  | err => rfl
  | ok p => obtain ⟨comp, taken⟩ := p; cases taken <;> cases comp <;> rfl

theorem execForLoop_succ (n : Nat) (lv : Str) (r : Ranger F) (body : List (Stmt F)) (st : St F) :
    execForLoop ops ext prog (n + 1) lv r body st =
      match rangerNext ops st r with
      | none => .ok .normal st
      | some (v, r') =>
        match updateVar st lv v with
        | none => .err (.goPanic "scope.update: unknown loop variable") st
        | some st1 => ((execBlockNode ops ext prog n body (pushScope st1)).mapSt popScope).bind fun c st' =>
          match c with
          | .normal => execForLoop ops ext prog n lv r' body st'
          | .brk => .ok .normal st'
          | .ret rv => .ok (.ret rv) st' := by
  rw [execForLoop]
  cases rangerNext ops st r with
  | none => rfl
  | some p =>
    obtain ⟨v, r'⟩ := p
    dsimp only
    cases updateVar st lv v with
    | none => rfl
    | some st1 =>
      dsimp only
      cases execBlockNode ops ext prog n body (pushScope st1) with
      | err => rfl
      | ok c => cases c <;> rfl

theorem evalNumOr_succ (n : Nat) (oe : Option (Expr F)) (d : F) (st : St F) :
    evalNumOr ops ext prog (n + 1) oe d st =
      (evalE ops ext prog n (match oe with | some e => e | none => .num d) st).bind fun v st' =>
        match v with
        | .num v => .ok v st'
        | _ => .err (.internal "ErrType: expected number") st' := by
  unfold evalNumOr
  dsimp only
  cases evalE ops ext prog n (match oe with | some e => e | none => .num d) st with
  | err => rfl
  | ok v => cases v <;> rfl

def storeIndex (st : St F) (left idx v : Val F) : Res F (Completion F) :=
  match left with
  | .arr a =>
    match heapGet st a, idx with
    | some (.arr es), .num iv =>
      match setIndexList ops es iv v with
      | .ok (some es') => .ok .normal (heapSet st a (.arr es'))
      | .ok Option.none => .err (.goPanic "SetIndex out of range") st
      | .error er => .err (idxErr er) st
    | some (.arr _), _ => .err (.goPanic "normalizeIndex: idx.(*numVal)") st
    | _, _ => .err (.goPanic "assign index: heap") st
  | .map a =>
    match heapGet st a, idx with
    | some (.map m), .str k => .ok .normal (heapSet st a (.map (m.setKey k v)))
    | some (.map _), _ => .err (.goPanic "index.(*stringVal)") st
    | _, _ => .err (.goPanic "assign index: heap") st
  | _ => .err (.internal "ErrType: assignment target") st

def declLoopVar (lvOpt : Option Str) (st : St F) (v : Val F) : St F :=
  match lvOpt with
  | some n => setVar st n v
  | Option.none => st

def newRange (n : Nat) (lvOpt : Option Str) (lvTy : Ty) (range : ForRange F) (st : St F) : Res F (Ranger F) :=
  match range with
  | .step start stop step =>
    (evalNumOr ops ext prog n start ops.zero st).bind fun a s1 =>
    (evalNumOr ops ext prog n (some stop) ops.zero s1).bind fun b s2 =>
    (evalNumOr ops ext prog n step ops.one s2).bind fun c s3 =>
      if ops.eq c ops.zero then .err (.panic .rangeValue) s3
      else .ok (.step a b c) (declLoopVar lvOpt s3 (.num ops.zero))
  | .over e =>
    (evalE ops ext prog n e st).bind fun v s =>
      match v with
      -- not `declLoopVar`: the zero value is allocated, and only if there is a loop variable
      | .arr a => .ok (.arr a 0) (match lvOpt with
          | some n => setVar (zeroVal ops s lvTy).2 n (zeroVal ops s lvTy).1
          | Option.none => s)
      | .str cs => .ok (.str cs 0) (declLoopVar lvOpt s (.str []))
      | .map a =>
        match heapGet s a with
        | some (.map m) => .ok (.map a m.order) (declLoopVar lvOpt s (.str []))
        | _ => .err (.goPanic "range: heap") s
      | _ => .err (.internal "ErrRangeType") s

theorem execS_succ (n : Nat) (s : Stmt F) (st0 : St F) :
    execS ops ext prog (n + 1) s st0 = (tickR st0).bind fun _ st =>
      match s with
      | .noop => .ok .normal st
      | .brk => .ok .brk st
      | .decl name value => (evalE ops ext prog n value st).bind fun v st' => .ok .normal (setVar st' name v)
      | .callS (.call name args) => (evalCall ops ext prog n name args st).bind fun _ st' => .ok .normal st'
      | .callS _ => .err (.internal "FuncCallStmt without call") st
      | .ret none => .ok (.ret none) st
      | .ret (some e) => (evalE ops ext prog n e st).bind fun v st' => .ok (.ret (some v)) st'
      | .assign target value => (evalE ops ext prog n value st).bind fun v st' =>
        match target with
        | .var nm =>
          match updateVar st' nm v with
          | some st'' => .ok .normal st''
          | none => .err (.panic .varNotSet) st'
        | .index l i => (evalE ops ext prog n l st').bind fun left st'' =>
          (evalE ops ext prog n i st'').bind fun idx st3 => storeIndex ops st3 left idx v
        | .dot l key => (evalE ops ext prog n l st').bind fun left st'' =>
          match left with
          | .map a =>
            match heapGet st'' a with
            | some (.map m) => .ok .normal (heapSet st'' a (.map (m.setKey key v)))
            | _ => .err (.goPanic "assign dot: heap") st''
          | _ => .err (.internal "ErrType: dot target") st''
        | _ => .err (.internal "ErrAssignmentTarget") st'
      | .ifS conds els => execIfChain ops ext prog n conds els st
      | .whileS cond body => execWhile ops ext prog n cond body st
      | .forS lvOpt lvTy range body =>
        ((newRange ops ext prog n lvOpt lvTy range (pushScope st)).bind fun r s =>
          execForLoop ops ext prog n (match lvOpt with | some n => n | none => underscore) r body s).mapSt popScope := by
  rw [execS, tickR]
  cases tick st0 with
  | none => rfl
  | some st =>
    cases s with
    | noop | brk | ifS | whileS => rfl
    | decl name value => dsimp only [Res.bind_ok]; cases evalE ops ext prog n value st <;> rfl
    | callS e =>
      cases e with
      | call name args => dsimp only [Res.bind_ok]; cases evalCall ops ext prog n name args st <;> rfl
      | _ => rfl
    | ret v =>
      cases v with
      | none => rfl
      | some e => dsimp only [Res.bind_ok]; cases evalE ops ext prog n e st <;> rfl
    | assign target value =>
      dsimp only [Res.bind_ok]
      cases evalE ops ext prog n value st with
      | err => rfl
      | ok v st' =>
        cases target with
        | var nm => rfl
        | index l i =>
          dsimp only [Res.bind_ok]
          cases evalE ops ext prog n l st' with
          | err => rfl
          | ok left st'' => dsimp only [Res.bind_ok]; cases evalE ops ext prog n i st'' <;> rfl
        | dot l key =>
          dsimp only [Res.bind_ok]
          cases evalE ops ext prog n l st' with
          | err => rfl
          | ok left => cases left <;> rfl
        | _ => rfl
    | forS lvOpt lvTy range body =>
      dsimp only [Res.bind_ok, newRange]
      cases range with
      | step start stop step =>
        dsimp only
        cases evalNumOr ops ext prog n start ops.zero (pushScope st) with
        | err => rfl
        | ok a s1 =>
          dsimp only [Res.bind_ok]
          cases evalNumOr ops ext prog n (some stop) ops.zero s1 with
          | err => rfl
          | ok b s2 =>
            dsimp only [Res.bind_ok]
            cases evalNumOr ops ext prog n step ops.one s2 with
            | err => rfl
            | ok c s3 =>
              dsimp only [Res.bind_ok]
              by_cases hz : ops.eq c ops.zero = true
              · rw [if_pos hz, if_pos hz]; rfl
              · rw [if_neg hz, if_neg hz]
                cases lvOpt <;> dsimp only [Res.bind_ok, declLoopVar] <;> cases execForLoop ops ext prog n _ _ body _ <;> rfl
      | over e =>
        dsimp only
        cases evalE ops ext prog n e (pushScope st) with
        | err => rfl
        | ok v s =>
          cases v with
          | arr a => cases lvOpt <;> dsimp only [Res.bind_ok] <;> cases execForLoop ops ext prog n _ _ body _ <;> rfl
          | str cs =>
            cases lvOpt <;> dsimp only [Res.bind_ok, declLoopVar] <;> cases execForLoop ops ext prog n _ _ body _ <;> rfl
          | map a =>
            dsimp only [Res.bind_ok]
            cases heapGet s a with
            | none => rfl
            | some o =>
              cases o with
              | arr => rfl
              | map m =>
                cases lvOpt <;> dsimp only [Res.bind_ok, declLoopVar] <;> cases execForLoop ops ext prog n _ _ body _ <;> rfl
          | _ => rfl

def finishRun (r : Res F (Completion F)) : RunResult × St F :=
  match r with
  | .err o st' => (.err o, testReport st')
  | .ok _ st' => if (testReport st').testFails > 0 then (.testFail, testReport st') else (.ok, testReport st')

theorem runProgram_eq (fuel : Nat) (st0 : St F) : runProgram ops ext prog fuel st0 =
    finishRun ((tickR st0).bind fun _ st => execStmts ops ext prog fuel prog.stmts st) := by
  rw [runProgram, tickR]
  cases tick st0 with
  | none => rfl
  | some st => dsimp only [Res.bind_ok]; cases execStmts ops ext prog fuel prog.stmts st <;> rfl

def fits : List (Str × Ty) → List (Val F) → Bool
  | [], _ => true
  | (_, t) :: ps, v :: vs => payloadOk t v && fits ps vs
  | _ :: _, [] => false

theorem bindPayload_eq : ∀ (ps : List (Str × Ty)) (vs : List (Val F)) (st : St F),
    bindPayload ps vs st = if fits ps vs then some (bindParams (ps.map (·.1)) vs st) else none
  | [], vs, st => by cases vs <;> rfl
  | _ :: _, [], _ => rfl
  | (n, t) :: ps, v :: vs, st => by
    simp only [bindPayload, fits, List.map_cons, bindParams]
    cases payloadOk t v
    · rfl
    · simp only [if_true, Bool.true_and, bindPayload_eq ps vs]

theorem bindPayload_some {ps : List (Str × Ty)} {vs : List (Val F)} {st st2 : St F} (h : bindPayload ps vs st = some st2) :
    fits ps vs = true ∧ st2 = bindParams (ps.map (·.1)) vs st := by
  rw [bindPayload_eq] at h
  split at h <;> cases h
  exact ⟨‹_›, rfl⟩

theorem fits_spec : ∀ (ps : List (Str × Ty)) (vs : List (Val F)), fits ps vs = true →
    ps.length ≤ vs.length ∧ ∀ (i : Nat) v t, vs[i]? = some v → (ps.map (·.2))[i]? = some t → payloadOk t v = true
  | [], _, _ => ⟨Nat.zero_le _, nofun⟩
  | (_, t) :: ps, v :: vs, h => by
    simp only [fits, Bool.and_eq_true] at h
    obtain ⟨hl, hr⟩ := fits_spec ps vs h.2
    refine ⟨Nat.succ_le_succ hl, fun i w pt h1 h2 => ?_⟩
    cases i with
    | zero => cases h1; cases h2; exact h.1
    | succ j => exact hr j w pt h1 h2

namespace C15

/-- the procedure equivalent to a handler -/
def asProc (h : Handler F) (fname : Str) : FuncDef F :=
  { name := fname, params := h.params.map (·.1), variadic := Option.none, body := h.body }

/-- a procedure call's result read as that of an event delivery -/
def asRun : Res F (Val F) → RunResult × St F
  | .ok _ s => (.ok, s)
  | .err o s => (.err o, s)

end C15

theorem handleEvent_eq (fuel : Nat) (name : Str) (payload : List (Val F)) (st : St F) :
    handleEvent ops ext prog fuel name payload st =
      match prog.handlers.find? (fun h => h.name == name) with
      | none => (.err (.goPanic "no event handler"), st)
      | some h =>
        if payload.length < h.params.length then (.err (.goPanic "not enough arguments"), st)
        else if fits h.params payload then C15.asRun (callUser ops ext prog fuel (C15.asProc h name) payload st)
        else (.err (.panic .anyConversion), st) := by
  unfold handleEvent
  cases prog.handlers.find? (fun h => h.name == name) with
  | none => rfl
  | some h =>
    dsimp only
    split
    · rfl
    · rw [bindPayload_eq]
      cases fits h.params payload with
      | false => rfl
      | true =>
        rw [if_pos rfl, if_pos rfl, callUser]
        dsimp only [C15.asProc, calleeState]
        cases execBlockNode ops ext prog fuel h.body _ <;> rfl

theorem tickR_stopped (st : St F) (h : st.stopped = true) : tickR st = .err .stopped st := by
  rw [tickR, tick_stopped st h]


theorem stopped_expr (n : Nat) (e : Expr F) (st : St F) (h : st.stopped = true) :
    evalE ops ext prog (n + 1) e st = .err .stopped st := by
  rw [evalE_succ, tickR_stopped st h]; rfl

theorem stopped_stmt (n : Nat) (s : Stmt F) (st : St F) (h : st.stopped = true) :
    execS ops ext prog (n + 1) s st = .err .stopped st := by
  rw [execS_succ, tickR_stopped st h]; rfl

theorem stopped_block (n : Nat) (b : List (Stmt F)) (st : St F) (h : st.stopped = true) :
    execBlockNode ops ext prog (n + 1) b st = .err .stopped st := by
  rw [execBlockNode_succ, tickR_stopped st h]; rfl

end EvyV
