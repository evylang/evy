import EvyV.Model.MapVal
/-! `GoMap`: what `set` does to lookup, keys and membership, and `MapVal.setKey` / `delete` on `pairs`; for map values
and for scopes, which are `GoMap`s too. -/
namespace EvyV

variable {V : Type}

theorem lookup_cons_ite (p : Key × V) (l : List (Key × V)) (k : Key) :
    List.lookup k (p :: l) = if k = p.1 then some p.2 else List.lookup k l := by
  obtain ⟨a, b⟩ := p
  simp only [List.lookup_cons]
  split <;> simp_all

theorem GoMap.lookup_set (m : GoMap V) (k k' : Key) (v : V) :
    List.lookup k' (GoMap.set m k v) = if k' = k then some v else List.lookup k' m := by
  induction m with
  | nil => simp [GoMap.set, lookup_cons_ite]
  | cons p rest ih =>
    simp only [GoMap.set]
    split
    · subst_vars; simp only [lookup_cons_ite]; split <;> rfl
    · simp only [lookup_cons_ite, ih]; split <;> simp_all

theorem GoMap.has_iff_mem_keys (m : GoMap V) (k : Key) : GoMap.has m k = true ↔ k ∈ GoMap.keys m := by
  simp only [GoMap.has, GoMap.keys, List.lookup_isSome_iff, beq_iff_eq, List.mem_map]
  exact ⟨fun ⟨p, hp, e⟩ => ⟨p, hp, e.symm⟩, fun ⟨p, hp, e⟩ => ⟨p, hp, e.symm⟩⟩

theorem GoMap.mem_set {α : Type} {m : GoMap α} {k : Key} {v : α} {p : Key × α} (h : p ∈ GoMap.set m k v) : p = (k, v) ∨ p ∈ m := by
  induction m with
  | nil => exact .inl (List.mem_singleton.mp h)
  | cons q rest ih =>
    simp only [GoMap.set] at h
    split at h
    · exact (List.mem_cons.mp h).imp_right (List.mem_cons_of_mem _)
    · rcases List.mem_cons.mp h with rfl | h
      · exact .inr List.mem_cons_self
      · exact (ih h).imp_right (List.mem_cons_of_mem _)

theorem GoMap.keys_set (m : GoMap V) (k : Key) (v : V) :
    GoMap.keys (GoMap.set m k v) = if GoMap.has m k then GoMap.keys m else GoMap.keys m ++ [k] := by
  induction m with
  | nil => rfl
  | cons p rest ih =>
    simp only [GoMap.set, GoMap.has, GoMap.keys, lookup_cons_ite] at ih ⊢
    by_cases h : p.1 = k
    · simp [h]
    · simp only [h, if_false, List.map_cons, ih, if_neg (Ne.symm h)]
      split <;> simp [*]

theorem MapVal.setKey_pairs (m : MapVal V) (k : Key) (v : V) : (m.setKey k v).pairs = GoMap.set m.pairs k v := by
  unfold MapVal.setKey; split <;> rfl

theorem MapVal.delete_pairs (m : MapVal V) (k : Key) : (m.delete k).pairs = GoMap.del m.pairs k := by
  unfold MapVal.delete; split
  · rfl
  · rename_i hk
    refine (List.filter_eq_self.2 fun p hp => ?_).symm
    have := mt (GoMap.has_iff_mem_keys m.pairs k).2 hk
    simpa using fun e : p.1 = k => this (e ▸ List.mem_map_of_mem hp)

end EvyV

