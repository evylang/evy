import EvyV.Model.Pratt
/-!
The C01 specification of expression trees: `Spec` as docs/spec.md states it, with one binding level per tree; `WF` in
the form the parsers' invariants need, with the binding levels of the two flanks (`llvl`, `rlvl`).
-/
namespace EvyV.Pratt

/-- binding power of the next token (0 at the end) -/
def hp : List Tok → Nat
  | [] => 0
  | t :: _ => t.prec

/-- how tightly the root of a tree binds, seen from the left -/
def llvl : E → Nat
  | .bin o _ _ => o.prec
  | .index _ _ | .sliceAll _ | .sliceTo _ _ | .sliceFrom _ _ | .slice _ _ _ | .dot _ _ | .assert _ _ => indexPrec
  | _ => 9

/-- the weakest binding power on the right spine: a following operator that binds tighter than this
would be taken into the tree -/
def rlvl : E → Nat
  | .bin o _ r => min o.prec (rlvl r)
  | .un _ e => min unaryPrec (rlvl e)
  | _ => 9

/-- precedence-respecting trees -/
def WF : E → Prop
  | .atom _ => True
  | .un _ e => WF e ∧ unaryPrec < llvl e
  | .bin o l r => WF l ∧ WF r ∧ o.prec ≤ llvl l ∧ o.prec ≤ rlvl l ∧ o.prec < llvl r
  | .group e => WF e
  | .index l i => WF l ∧ WF i ∧ indexPrec ≤ llvl l ∧ indexPrec ≤ rlvl l
  | .sliceAll l => WF l ∧ indexPrec ≤ llvl l ∧ indexPrec ≤ rlvl l
  | .sliceTo l b => WF l ∧ WF b ∧ indexPrec ≤ llvl l ∧ indexPrec ≤ rlvl l
  | .sliceFrom l a => WF l ∧ WF a ∧ indexPrec ≤ llvl l ∧ indexPrec ≤ rlvl l
  | .slice l a b => WF l ∧ WF a ∧ WF b ∧ indexPrec ≤ llvl l ∧ indexPrec ≤ rlvl l
  | .dot l _ => WF l ∧ indexPrec ≤ llvl l ∧ indexPrec ≤ rlvl l
  | .assert l _ => WF l ∧ indexPrec ≤ llvl l ∧ indexPrec ≤ rlvl l

theorem prec_pos (o : BinOp) : 1 ≤ o.prec ∧ o.prec ≤ 6 := by cases o <;> simp [BinOp.prec]

theorem llvl_pos (e : E) : 0 < llvl e := by
  cases e <;> simp [llvl, indexPrec]
  exact (prec_pos _).1

/-- up to 8 only, here and in `spec_rlvl`: a postfix form is closed on the right (`rlvl` 9) but binds at `indexPrec` -/
theorem le_llvl_of_le_rlvl {e : E} {k : Nat} (hk : k ≤ indexPrec) (h : k ≤ rlvl e) : k ≤ llvl e := by
  cases e <;> simp only [rlvl, llvl, indexPrec] at hk h ⊢ <;> omega

/-- binding level of the root: a binary operator its own, unary 7, indexing 8, atoms and groups 9 -/
def lvl : E → Nat
  | .bin o _ _ => o.prec
  | .un _ _ => unaryPrec
  | .index _ _ | .sliceAll _ | .sliceTo _ _ | .sliceFrom _ _ | .slice _ _ _ | .dot _ _ | .assert _ _ => indexPrec
  | _ => 9

/-- docs/spec.md: operators of higher precedence bind first; binary operators of the same precedence
associate to the left; unary operators bind tighter than binary ones; indexing binds tightest -/
def Spec : E → Prop
  | .atom _ => True
  | .un _ e => Spec e ∧ unaryPrec ≤ lvl e
  | .bin o l r => Spec l ∧ Spec r ∧ o.prec ≤ lvl l ∧ o.prec < lvl r
  | .group e => Spec e
  | .index l i => Spec l ∧ Spec i ∧ indexPrec ≤ lvl l
  | .sliceAll l => Spec l ∧ indexPrec ≤ lvl l
  | .sliceTo l b => Spec l ∧ Spec b ∧ indexPrec ≤ lvl l
  | .sliceFrom l a => Spec l ∧ Spec a ∧ indexPrec ≤ lvl l
  | .slice l a b => Spec l ∧ Spec a ∧ Spec b ∧ indexPrec ≤ lvl l
  | .dot l _ => Spec l ∧ indexPrec ≤ lvl l
  | .assert l _ => Spec l ∧ indexPrec ≤ lvl l

theorem spec_rlvl (e : E) (h : Spec e) : min (rlvl e) 8 = min (lvl e) 8 := by
  induction e with
  | un u e ih =>
    have := ih h.1; have h2 : 7 ≤ lvl e := h.2
    show min (min 7 (rlvl e)) 8 = min 7 8; omega
  | bin o l r _ ihr =>
    have := ihr h.2.1; have h2 : o.prec < lvl r := h.2.2.2; have := (prec_pos o).2
    show min (min o.prec (rlvl r)) 8 = min o.prec 8; omega
  | _ => rfl

/-- seen from the left a unary expression is closed (it starts with its operator) -/
theorem llvl_lvl (e : E) : (llvl e = lvl e ∧ lvl e ≠ unaryPrec) ∨ (llvl e = 9 ∧ lvl e = unaryPrec) := by
  cases e <;> simp [llvl, lvl, unaryPrec, indexPrec]
  have := (prec_pos ‹BinOp›).2; omega

theorem left_ok {l : E} (h : Spec l) {k : Nat} (hk : k ≤ indexPrec) : (k ≤ llvl l ∧ k ≤ rlvl l) ↔ k ≤ lvl l := by
  have := spec_rlvl l h; have := llvl_lvl l; simp only [unaryPrec, indexPrec] at *; omega

theorem right_ok (r : E) {k : Nat} (hk : k < unaryPrec) : k < llvl r ↔ k < lvl r := by
  have := llvl_lvl r; simp only [unaryPrec] at *; omega

theorem operand_ok (e : E) : unaryPrec < llvl e ↔ unaryPrec ≤ lvl e := by
  have := llvl_lvl e; simp only [unaryPrec] at *; omega

def UnOp.tok : UnOp → Tok
  | .neg => .op .minus
  | .not => .bang

theorem toks_un (u : UnOp) (e : E) : toks (.un u e) = u.tok :: toks e := by cases u <;> rfl

end EvyV.Pratt
