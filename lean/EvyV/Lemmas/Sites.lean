import EvyV.Gen.Sites
/-!
Facts about the regenerated inventories (Gen/Sites.lean) that more than one property states.
-/
namespace EvyV

theorem evalCases_cover :
    (∀ k ∈ Gen.nodeKinds, k ∈ Gen.evalCases ∨ k = "ConditionalBlock" ∨ k = "StepRange") ∧
    Gen.evalFallThroughIsError = true := by
  -- `+kernel`: plain `decide` evaluates in the elaborator first, slowly
  decide +kernel

end EvyV
