import EvyV.Model.Blocks
/-!
The block structure of Evy programs, line by line: the parser model of Model/Blocks.lean returns a tree exactly for
the well-nested line sequences, the one whose lines are the input; printing and parsing again gives the tree back,
and the printer indents every line by its block level.
-/
namespace EvyV.Blocks

def elseLines : Option B → List L → List L
  | none, r => r
  | some _, r => .elseL :: r

mutual
def lnT : T → List L
  | .simple => [.s]
  | .blank => [.blank]
  | .whileT b => .whileL :: (lnB b ++ [.endL])
  | .forT b => .forL :: (lnB b ++ [.endL])
  | .ifT first elifs none => .ifL :: (lnB first ++ (lnBL elifs ++ [.endL]))
  | .ifT first elifs (some e) => .ifL :: (lnB first ++ (lnBL elifs ++ (.elseL :: (lnB e ++ [.endL]))))
def lnB : B → List L
  | .nil => []
  | .cons t r => lnT t ++ lnB r
def lnBL : BL → List L
  | .nil => []
  | .cons b r => .elifL :: (lnB b ++ lnBL r)
end

def lnTop : Top → List L
  | .func b => .funcL :: (lnB b ++ [.endL])
  | .on b => .onL :: (lnB b ++ [.endL])
  | .stmt t => lnT t

def lnProgram (p : List Top) : List L := p.flatMap lnTop

theorem lnProgram_cons (t : Top) (p : List Top) : lnProgram (t :: p) = lnTop t ++ lnProgram p := List.flatMap_cons

/-! well-formed: no empty block -/

mutual
def WFT : T → Prop
  | .simple => True
  | .blank => True
  | .whileT b => b.isEmpty = false ∧ WFB b
  | .forT b => b.isEmpty = false ∧ WFB b
  | .ifT first elifs none => first.isEmpty = false ∧ WFB first ∧ WFBL elifs
  | .ifT first elifs (some e) => first.isEmpty = false ∧ WFB first ∧ WFBL elifs ∧ e.isEmpty = false ∧ WFB e
def WFB : B → Prop
  | .nil => True
  | .cons t r => WFT t ∧ WFB r
def WFBL : BL → Prop
  | .nil => True
  | .cons b r => b.isEmpty = false ∧ WFB b ∧ WFBL r
end

def WFTop : Top → Prop
  | .func b => b.isEmpty = false ∧ WFB b
  | .on b => b.isEmpty = false ∧ WFB b
  | .stmt t => WFT t

/-! `lnT`, `WFT` have the if statement twice (without / with else); the proofs use one form -/

def lnElse : Option B → List L
  | none => []
  | some e => .elseL :: lnB e

theorem lnT_if (a : B) (bl : BL) (els : Option B) :
    lnT (.ifT a bl els) = .ifL :: (lnB a ++ (lnBL bl ++ (lnElse els ++ [.endL]))) := by
  cases els <;> rfl

theorem WFT_if (a : B) (bl : BL) (els : Option B) :
    WFT (.ifT a bl els) ↔ a.isEmpty = false ∧ WFB a ∧ WFBL bl ∧ ∀ e ∈ els, e.isEmpty = false ∧ WFB e := by
  cases els <;> simp [WFT]

/-- where a block may end -/
def Stops (inIf : Bool) : List L → Prop
  | [] => True
  | .endL :: _ => True
  | .elseL :: _ => inIf = true
  | .elifL :: _ => inIf = true
  | _ => False

/-! soundness, by cases on the branch the parser took: one that returns a tree comes with the equations of its calls -/

theorem sound (f : Nat) :
    (∀ l r t r', parseStmt f l r = some (t, r') → l :: r = lnT t ++ r' ∧ WFT t) ∧
    (∀ inIf ls b r', parseBlock f inIf ls = some (b, r') → ls = lnB b ++ r' ∧ WFB b ∧ Stops inIf r') ∧
    (∀ ls bl els r', parseElifs f ls = some (bl, els, r') →
      ls = lnBL bl ++ (lnElse els ++ .endL :: r') ∧ WFBL bl ∧ ∀ e ∈ els, e.isEmpty = false ∧ WFB e) := by
  -- strong only so that `ih` is at hand at the predecessor in whatever case `fun_cases` lands
  induction f using Nat.strongRecOn with | _ f ih => ?_
  refine ⟨fun l r => ?_, fun inIf ls => ?_, fun ls => ?_⟩
  · fun_cases parseStmt f l r <;> rintro _ _ ⟨⟩ <;> obtain ⟨-, sB, sE⟩ := ih _ (Nat.lt_succ_self _)
    case case2 | case3 => exact ⟨rfl, trivial⟩                         -- a simple statement, a blank line
    case case5 b _ hne hb | case8 b _ hne hb =>                        -- while, for
      obtain ⟨rfl, w, -⟩ := sB _ _ _ _ hb
      exact ⟨by simp [lnT], eq_false_of_ne_true hne, w⟩
    case case11 b _ hne _ _ _ he hb =>                                 -- if
      obtain ⟨rfl, w, -⟩ := sB _ _ _ _ hb
      obtain ⟨rfl, w2, w3⟩ := sE _ _ _ _ he
      exact ⟨by simp [lnT_if], (WFT_if ..).2 ⟨eq_false_of_ne_true hne, w, w2, w3⟩⟩
  · fun_cases parseBlock f inIf ls <;> rintro _ _ ⟨⟩ <;> obtain ⟨sT, sB, -⟩ := ih _ (Nat.lt_succ_self _)
    case case2 | case3 => exact ⟨rfl, trivial, trivial⟩                -- end of input, `end`
    case case4 | case6 => exact ⟨rfl, trivial, rfl⟩                    -- `else`, `else if` in an if-block
    case case8 ht _ _ hb =>                                            -- a statement, then the rest of the block
      obtain ⟨e, w⟩ := sT _ _ _ _ ht
      obtain ⟨rfl, w2, s⟩ := sB _ _ _ _ hb
      exact ⟨by simp [lnB, e], ⟨w, w2⟩, s⟩
  · fun_cases parseElifs f ls <;> rintro _ _ _ ⟨⟩ <;> obtain ⟨-, sB, sE⟩ := ih _ (Nat.lt_succ_self _)
    case case3 hb hne _ _ _ he =>                                      -- else if
      obtain ⟨rfl, w, -⟩ := sB _ _ _ _ hb
      obtain ⟨rfl, w2, w3⟩ := sE _ _ _ _ he
      exact ⟨by simp [lnBL], ⟨eq_false_of_ne_true hne, w, w2⟩, w3⟩
    case case7 hb hne =>                                               -- else
      obtain ⟨rfl, w, -⟩ := sB _ _ _ _ hb
      exact ⟨by simp [lnBL, lnElse], trivial, by simpa using ⟨eq_false_of_ne_true hne, w⟩⟩
    case case9 => exact ⟨rfl, trivial, nofun⟩                          -- end

theorem top_sound (f ls) : ∀ p, parseTop f ls = some p → ls = lnProgram p ∧ ∀ t ∈ p, WFTop t := by
  fun_induction parseTop f ls <;> intro p h
  case case2 => cases h; exact ⟨rfl, nofun⟩
  case case4 f r b r' hb hne ih | case7 f r b r' hb hne ih =>          -- func, on
    obtain ⟨q, hq, rfl⟩ := Option.map_eq_some_iff.1 h
    obtain ⟨rfl, w, -⟩ := (sound f).2.1 _ _ _ _ hb
    obtain ⟨rfl, w'⟩ := ih q hq
    exact ⟨by simp [lnProgram_cons, lnTop], List.forall_mem_cons.2 ⟨⟨eq_false_of_ne_true hne, w⟩, w'⟩⟩
  case case9 f l r _ _ t r' ht ih =>                                   -- a statement
    obtain ⟨q, hq, rfl⟩ := Option.map_eq_some_iff.1 h
    obtain ⟨e, w⟩ := (sound f).1 _ _ _ _ ht
    obtain ⟨rfl, w'⟩ := ih q hq
    exact ⟨e, List.forall_mem_cons.2 ⟨w, w'⟩⟩
  all_goals cases h                                                    -- `none`

theorem lnT_cons (t : T) : ∃ l tl, lnT t = l :: tl := by
  cases t with
  | ifT a bl els => exact ⟨_, _, lnT_if a bl els⟩
  | _ => exact ⟨_, _, rfl⟩

theorem isEmpty_lnB (b : B) (h : b.isEmpty = false) : ∃ l tl, lnB b = l :: tl := by
  cases b with
  | nil => cases h
  | cons t r => obtain ⟨l, tl, e⟩ := lnT_cons t; exact ⟨l, tl ++ lnB r, by rw [lnB, e]; rfl⟩

theorem stops_lnBL (bl : BL) (tl : List L) (h : Stops true tl) : Stops true (lnBL bl ++ tl) := by
  cases bl with
  | nil => exact h
  | cons b r => rfl

theorem stmt_head {f l r x} (h : parseStmt f l r = some x) :
    l ≠ .endL ∧ l ≠ .elseL ∧ l ≠ .elifL ∧ l ≠ .funcL ∧ l ≠ .onL := by
  refine ⟨?_, ?_, ?_, ?_, ?_⟩ <;> rintro rfl <;> cases f <;> cases h

/-! fuel: a call costs one unit and goes on with the tail of its input or a suffix of it -/

theorem fuel_stmt {l : L} {r : List L} {f : Nat} (h : 2 * (l :: r).length + 1 ≤ f + 1) : 2 * r.length + 2 ≤ f := by
  rw [List.length_cons] at h; omega

theorem fuel_tail {l : L} {r : List L} {f : Nat} (h : 2 * (l :: r).length + 1 ≤ f + 1) : 2 * r.length + 1 ≤ f :=
  Nat.le_of_succ_le (fuel_stmt h)

theorem fuel_suffix {pre suf : List L} {f : Nat} (h : 2 * (pre ++ suf).length + 1 ≤ f) : 2 * suf.length + 1 ≤ f := by
  rw [List.length_append] at h; omega

mutual
/-- parseStmt takes the first line apart: the lines of `t` come split as `l :: tl` (`lnT_cons`) -/
theorem complete_stmt (t : T) (f : Nat) (rest : List L) (l : L) (tl : List L) (hw : WFT t) (e : lnT t = l :: tl)
    (hf : 2 * (tl ++ rest).length + 2 ≤ f) : parseStmt f l (tl ++ rest) = some (t, rest) := by
  obtain _ | f := f
  · exact nomatch hf
  cases t with
  | simple | blank => cases e; rfl
  | whileT b | forT b =>
    cases e
    simp only [List.append_assoc, List.singleton_append] at hf ⊢
    simp only [parseStmt, complete_block b f false (.endL :: rest) hw.2 trivial (Nat.le_of_succ_le_succ hf), hw.1,
      Bool.false_eq_true, reduceIte]
  | ifT a bl els =>
    obtain ⟨hne, hwa, hwbl, hwe⟩ := (WFT_if ..).1 hw
    rw [lnT_if] at e; cases e
    simp only [List.append_assoc, List.singleton_append] at hf ⊢
    have hf := Nat.le_of_succ_le_succ hf
    have hs : Stops true (lnElse els ++ .endL :: rest) := by cases els <;> trivial
    simp only [parseStmt, complete_block a f true _ hwa (stops_lnBL bl _ hs) hf, hne,
      cE bl els _ rest f hwbl hs (complete_else els rest hwe) (List.length_append ▸ fuel_suffix hf), Bool.false_eq_true, reduceIte]
theorem complete_block (b : B) (f : Nat) (inIf : Bool) (rest : List L) (hw : WFB b) (hs : Stops inIf rest)
    (hf : 2 * (lnB b ++ rest).length + 1 ≤ f) : parseBlock f inIf (lnB b ++ rest) = some (b, rest) := by
  obtain _ | f := f
  · exact nomatch hf
  cases b with
  | nil =>
    cases rest with
    | nil => rfl
    | cons l r => cases l <;> cases hs <;> rfl
  | cons t r =>
    obtain ⟨l, tl, e⟩ := lnT_cons t
    simp only [lnB, e, List.append_assoc, List.cons_append] at hf ⊢
    have ht := complete_stmt t f _ l tl hw.1 e (fuel_stmt hf)
    have hb := complete_block r f inIf rest hw.2 hs (fuel_suffix (fuel_tail hf))
    have ⟨_, _, _, _⟩ := stmt_head ht
    simp only [parseBlock, *]
/-- `tl`, what follows the else-if branches: anything on which parseElifs, with enough fuel, finds no further branch
(`htl`; `complete_else`) -/
theorem cE : (bl : BL) → ∀ (els : Option B) (tl rest : List L) (f : Nat), WFBL bl → Stops true tl →
    (∀ f', 2 * tl.length + 1 ≤ f' → parseElifs f' tl = some (.nil, els, rest)) →
    2 * ((lnBL bl).length + tl.length) + 1 ≤ f → parseElifs f (lnBL bl ++ tl) = some (bl, els, rest) := by
  intro bl els tl rest f hw hs htl hf
  cases bl with
  | nil => exact htl _ (by simpa [lnBL] using hf)
  | cons b r =>
    obtain _ | f := f
    · exact nomatch hf
    simp only [lnBL, ← List.length_append, List.cons_append, List.append_assoc] at hf ⊢
    have hf := fuel_tail hf
    simp only [parseElifs, complete_block b f true _ hw.2.1 (stops_lnBL r tl hs) hf, hw.1,
      cE r els tl rest f hw.2.2 hs htl (List.length_append ▸ fuel_suffix hf), Bool.false_eq_true, reduceIte]
theorem complete_else (els : Option B) (rest : List L) (hw : ∀ e ∈ els, e.isEmpty = false ∧ WFB e) (f : Nat)
    (hf : 2 * (lnElse els ++ .endL :: rest).length + 1 ≤ f) :
    parseElifs f (lnElse els ++ .endL :: rest) = some (.nil, els, rest) := by
  obtain _ | f := f
  · exact nomatch hf
  cases els with
  | none => rfl
  | some e =>
    simp only [lnElse, List.cons_append] at hf ⊢
    simp only [parseElifs, complete_block e f false (.endL :: rest) (hw e rfl).2 trivial (fuel_tail hf), (hw e rfl).1,
      Bool.false_eq_true, reduceIte]
end

theorem top_complete (p : List Top) (f : Nat) (hw : ∀ t ∈ p, WFTop t) (hf : 2 * (lnProgram p).length + 1 ≤ f) :
    parseTop f (lnProgram p) = some p := by
  induction p generalizing f with
  | nil =>
    obtain _ | f := f
    · exact nomatch hf
    · rfl
  | cons t p ih =>
    obtain ⟨hwt, hwp⟩ := List.forall_mem_cons.1 hw
    obtain _ | f := f
    · exact nomatch hf
    cases t with
    | func b | on b =>
      simp only [lnProgram_cons, lnTop, List.cons_append, List.append_assoc, List.nil_append] at hf ⊢
      have hf := fuel_tail hf
      simp only [parseTop, complete_block b f false (.endL :: lnProgram p) hwt.2 trivial hf, hwt.1,
        ih f hwp (fuel_suffix (pre := [.endL]) (fuel_suffix hf)), Bool.false_eq_true, reduceIte, Option.map_some]
    | stmt s =>
      obtain ⟨l, tl, e⟩ := lnT_cons s
      simp only [lnProgram_cons, lnTop, e, List.cons_append] at hf ⊢
      have hs := complete_stmt s f _ l tl hwt e (fuel_stmt hf)
      have hp := ih f hwp (fuel_suffix (fuel_tail hf))
      have ⟨_, _, _, _, _⟩ := stmt_head hs
      simp only [parseTop, Option.map_some, *]

/-- **the parser accepts exactly the well-nested programs, and returns the tree whose lines they are** — a stray or
missing `end`, an `else` outside an if, a second `else`, an empty block, a `func` or `on` inside a block are all
rejected, nothing is ever dropped or invented -/
theorem parse_iff (ls : List L) (p : List Top) :
    parseProgram ls = some p ↔ (ls = lnProgram p ∧ ∀ t ∈ p, WFTop t) := by
  constructor
  · exact top_sound _ ls p
  · rintro ⟨rfl, hw⟩
    exact top_complete p _ hw (by omega)

/-- the block structure of an accepted program is unambiguous -/
theorem tree_unique (p q : List Top) (hp : ∀ t ∈ p, WFTop t) (hq : ∀ t ∈ q, WFTop t) (h : lnProgram p = lnProgram q) : p = q :=
  Option.some.inj (((parse_iff _ p).mpr ⟨rfl, hp⟩).symm.trans ((parse_iff _ q).mpr ⟨h, hq⟩))

/-- the block level of a line and the level after it, read off the line kinds alone: an opening line raises the
level for what follows, `end` lowers it and stands at the lower level, `else` / `else if` stand one level out -/
def step (d : Nat) : L → Nat × Nat
  | .endL => (d - 1, d - 1)
  | .elseL | .elifL => (d - 1, d)
  | .ifL | .whileL | .forL | .funcL | .onL => (d, d + 1)
  | _ => (d, d)

def levels : Nat → List L → List Nat
  | _, [] => []
  | d, l :: r => (step d l).1 :: levels (step d l).2 r

def levelAfter : Nat → List L → Nat
  | d, [] => d
  | d, l :: r => levelAfter (step d l).2 r

theorem levels_append (a b : List L) : ∀ d, levels d (a ++ b) = levels d a ++ levels (levelAfter d a) b := by
  induction a with
  | nil => intro d; rfl
  | cons l r ih => intro d; simp [levels, levelAfter, ih]

theorem levelAfter_append (a b : List L) : ∀ d, levelAfter d (a ++ b) = levelAfter (levelAfter d a) b := by
  induction a with
  | nil => intro d; rfl
  | cons l r ih => intro d; simp [levelAfter, ih]

section
attribute [local simp] printT printB printBL lnT lnB lnBL levels levelAfter step levels_append levelAfter_append

mutual
theorem printed_stmt (t : T) (d : Nat) :
    (printT d t).map Prod.snd = lnT t ∧ (printT d t).map Prod.fst = levels d (lnT t) ∧ levelAfter d (lnT t) = d := by
  cases t with
  | simple | blank => simp
  | whileT b | forT b => simp [printed_block b (d + 1)]
  | ifT a bl els =>
    cases els with
    | none => simp [printed_block a (d + 1), pBL bl d]
    | some e => simp [printed_block a (d + 1), pBL bl d, printed_block e (d + 1)]
theorem printed_block (b : B) (d : Nat) :
    (printB d b).map Prod.snd = lnB b ∧ (printB d b).map Prod.fst = levels d (lnB b) ∧ levelAfter d (lnB b) = d := by
  cases b with
  | nil => simp
  | cons t r => simp [printed_stmt t d, printed_block r d]
/-- else-if branches are scanned from inside the body: level `d + 1` -/
theorem pBL : (bl : BL) → ∀ d, (printBL d bl).map Prod.snd = lnBL bl ∧ (printBL d bl).map Prod.fst = levels (d + 1) (lnBL bl) ∧
    levelAfter (d + 1) (lnBL bl) = d + 1 := by
  intro bl d
  cases bl with
  | nil => simp
  | cons b r => simp [printed_block b (d + 1), pBL r d]
end

theorem printed_top (t : Top) : (printTop t).map Prod.snd = lnTop t ∧ (printTop t).map Prod.fst = levels 0 (lnTop t) ∧ levelAfter 0 (lnTop t) = 0 := by
  cases t with
  | func b | on b => simp [printTop, lnTop, printed_block b 1]
  | stmt s => exact printed_stmt s 0

/-- **the printed program**: its lines are the lines of the tree, and every line is indented by exactly its block
level — the number of blocks open at that line, as the line kinds alone determine it -/
theorem indent_is_block_level : ∀ (p : List Top),
    (printProgram p).map Prod.snd = lnProgram p ∧ (printProgram p).map Prod.fst = levels 0 (lnProgram p) ∧ levelAfter 0 (lnProgram p) = 0
  | [] => ⟨rfl, rfl, rfl⟩
  | t :: p => by
    have e : printProgram (t :: p) = printTop t ++ printProgram p := List.flatMap_cons
    simp [e, lnProgram_cons, printed_top t, indent_is_block_level p]
end

/-- **format, then parse again**: the printed lines of an accepted program are accepted and give the same tree -/
theorem printed_program_is_read_back (ls : List L) (p : List Top) (h : parseProgram ls = some p) :
    parseProgram ((printProgram p).map Prod.snd) = some p ∧ (printProgram p).map Prod.snd = ls := by
  have e := (indent_is_block_level p).1.trans ((parse_iff ls p).mp h).1.symm
  exact ⟨e ▸ h, e⟩

example : parseProgram [.s, .ifL, .s, .elifL, .blank, .elseL, .whileL, .s, .endL, .endL, .funcL, .s, .endL] =
    some [.stmt .simple,
      .stmt (.ifT (.cons .simple .nil) (.cons (.cons .blank .nil) .nil) (some (.cons (.whileT (.cons .simple .nil)) .nil))),
      .func (.cons .simple .nil)] := by rfl
example : parseProgram [.ifL, .endL] = none := by decide                      -- empty block
example : parseProgram [.ifL, .s] = none := by decide                         -- missing end
example : parseProgram [.s, .endL] = none := by decide                        -- stray end
example : parseProgram [.ifL, .s, .elseL, .s, .elseL, .s, .endL] = none := by decide   -- second else
example : parseProgram [.ifL, .s, .elseL, .s, .elifL, .s, .endL] = none := by decide   -- else if after else
example : parseProgram [.whileL, .funcL, .s, .endL, .endL] = none := by decide         -- func inside a block
example : parseProgram [.whileL, .s, .elseL, .s, .endL] = none := by decide            -- else outside an if
example : (printProgram [.stmt (.ifT (.cons (.whileT (.cons .simple .nil)) .nil) .nil (some (.cons .simple .nil)))]).map Prod.fst =
    [0, 1, 2, 1, 0, 1, 0] := by decide

end EvyV.Blocks
