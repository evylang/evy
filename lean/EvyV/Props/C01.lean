import EvyV.Model.Interp
import EvyV.Gen.Tables
/-!
C01 — expressions evaluate as the language definition prescribes.

(a) The binding-power table, operator classes and token→operator map extracted
    from expression.go / operator.go ARE the specification's precedence levels
    (docs/spec.md §Precedence: or < and < ==,!= < <,<=,>,>= < +,- < *,/,% < unary
    < indexing/field), with a strict loop test (left associativity).
(b) Operator meaning, operand order and short circuit, for the evaluator model:
    every theorem is for all sub-expressions, states and numbers.
The grouping of token sequences is Props/C01Pratt.lean (`parser_computes_spec_reading`); that the real parser
agrees is checked by the harness on thousands of generated layouts.
-/
namespace EvyV.C01

/-- spec.md precedence levels, lowest first -/
def specLevel : String → Option Nat
  | "OR" => some 1
  | "AND" => some 2
  | "EQ" | "NOT_EQ" => some 3
  | "LT" | "GT" | "LTEQ" | "GTEQ" => some 4
  | "PLUS" | "MINUS" => some 5
  | "ASTERISK" | "SLASH" | "PERCENT" => some 6
  | "LBRACKET" | "DOT" => some 8
  | _ => none

theorem prec_table_is_spec :
    (∀ p ∈ Gen.precedences, specLevel p.1 = some p.2) ∧ Gen.precedences.length = 15 := by decide +kernel

theorem left_associative_loop :
    Gen.parseExprLoopIsStrict = true ∧ Gen.binaryRightUsesOwnPrec = true ∧ Gen.unaryOperandUsesUnaryPrec = true ∧
    Gen.precLevels = ["lowestPrec", "orPrec", "andPrec", "equalsPrec", "lessgreaterPrec", "sumPrec", "productPrec",
                      "unaryPrec", "indexPrec"] := ⟨rfl, rfl, rfl, rfl⟩

theorem operator_classes :
    Gen.isComparisonOpTokens = ["EQ", "GT", "GTEQ", "LT", "LTEQ", "NOT_EQ"] ∧
    Gen.isBinaryOpTokens = ["AND", "ASTERISK", "MINUS", "OR", "PERCENT", "PLUS", "SLASH"] ∧
    Gen.tokenOperator = [("AND", "OP_AND"), ("ASTERISK", "OP_ASTERISK"), ("BANG", "OP_BANG"), ("DOT", "OP_DOT"),
      ("EQ", "OP_EQ"), ("GT", "OP_GT"), ("GTEQ", "OP_GTEQ"), ("LBRACKET", "OP_INDEX"), ("LT", "OP_LT"),
      ("LTEQ", "OP_LTEQ"), ("MINUS", "OP_MINUS"), ("NOT_EQ", "OP_NOT_EQ"), ("OR", "OP_OR"),
      ("PERCENT", "OP_PERCENT"), ("PLUS", "OP_PLUS"), ("SLASH", "OP_SLASH")] := ⟨rfl, rfl, rfl⟩

variable {F : Type} (ops : NumOps F) (ext : Ext F) (prog : Program F)

theorem num_ops (st : St F) (a b : F) :
    applyBinary ops ext st .plus (.num a) (.num b) = .ok (.num (ops.add a b)) st ∧
    applyBinary ops ext st .minus (.num a) (.num b) = .ok (.num (ops.sub a b)) st ∧
    applyBinary ops ext st .asterisk (.num a) (.num b) = .ok (.num (ops.mul a b)) st ∧
    applyBinary ops ext st .slash (.num a) (.num b) = .ok (.num (ops.div a b)) st ∧
    applyBinary ops ext st .lt (.num a) (.num b) = .ok (.bool (ops.lt a b)) st ∧
    applyBinary ops ext st .gt (.num a) (.num b) = .ok (.bool (ops.lt b a)) st ∧
    applyBinary ops ext st .lteq (.num a) (.num b) = .ok (.bool (ops.le a b)) st ∧
    applyBinary ops ext st .gteq (.num a) (.num b) = .ok (.bool (ops.le b a)) st :=
  ⟨rfl, rfl, rfl, rfl, rfl, rfl, rfl, rfl⟩

theorem string_ops (st : St F) (a b : Str) :
    applyBinary ops ext st .plus (.str a) (.str b) = .ok (.str (a ++ b)) st ∧
    applyBinary ops ext st .lt (.str a) (.str b) = .ok (.bool (strLt a b)) st ∧
    applyBinary ops ext st .gt (.str a) (.str b) = .ok (.bool (strLt b a)) st ∧
    applyBinary ops ext st .lteq (.str a) (.str b) = .ok (.bool (!strLt b a)) st ∧
    applyBinary ops ext st .gteq (.str a) (.str b) = .ok (.bool (!strLt a b)) st :=
  ⟨rfl, rfl, rfl, rfl, rfl⟩

theorem bool_ops (st : St F) (a b : Bool) :
    applyBinary ops ext st .and (.bool a) (.bool b) = .ok (.bool (a && b)) st ∧
    applyBinary ops ext st .or (.bool a) (.bool b) = .ok (.bool (a || b)) st :=
  ⟨rfl, rfl⟩

/-- `==` / `!=` are deep equality of values, `!=` its negation -/
theorem eq_neq_are_complementary (st : St F) (a b : Val F) (r : Bool)
    (h : applyBinary ops ext st .eq a b = .ok (.bool r) st) :
    applyBinary ops ext st .neq a b = .ok (.bool (!r)) st := by
  unfold applyBinary at h ⊢
  rw [if_pos (by decide)] at h ⊢
  -- both operators branch on the same comparison
  revert h
  cases valEquals ops st.heap (auxFuel st) a b <;> intro h <;> cases h <;> rfl

/-- concatenation builds a new array: elements of the left then of the right operand -/
theorem array_concat (st : St F) (la ra : Nat) (ls rs : List (Val F))
    (hl : heapGet st la = some (.arr ls)) (hr : heapGet st ra = some (.arr rs)) :
    applyBinary ops ext st .plus (.arr la) (.arr ra) = .ok (.arr st.heap.size) (alloc st (.arr (ls ++ rs))).2 := by
  simp [applyBinary, binArr, hl, hr, alloc]

/-- the left operand is evaluated first; if it fails the right one is never evaluated -/
theorem binary_left_first (n : Nat) (op : Op) (l r : Expr F) (st st1 st2 : St F) (o : Outcome)
    (ht : tick st = some st1) (hl : evalE ops ext prog n l st1 = .err o st2) :
    evalE ops ext prog (n + 1) (.binary op l r) st = .err o st2 := by
  simp [evalE, ht, hl]

/-- then the right operand, in the state the left one left behind -/
theorem binary_then_right (n : Nat) (op : Op) (l r : Expr F) (st st1 st2 st3 : St F) (lv rv : Val F)
    (ht : tick st = some st1) (hl : evalE ops ext prog n l st1 = .ok lv st2)
    (hns : canShortCircuit op lv = false) (hr : evalE ops ext prog n r st2 = .ok rv st3) :
    evalE ops ext prog (n + 1) (.binary op l r) st = applyBinary ops ext st3 op lv rv := by
  simp [evalE, ht, hl, hns, hr]

/-- `and` with a false left operand: the result is false and the right operand is NOT evaluated
(the final state is the state after the left operand) -/
theorem and_short_circuit (n : Nat) (l r : Expr F) (st st1 st2 : St F)
    (ht : tick st = some st1) (hl : evalE ops ext prog n l st1 = .ok (.bool false) st2) :
    evalE ops ext prog (n + 1) (.binary .and l r) st = .ok (.bool false) st2 := by
  simp [evalE, ht, hl, canShortCircuit, applyBinary, binBool]

/-- `or` with a true left operand likewise -/
theorem or_short_circuit (n : Nat) (l r : Expr F) (st st1 st2 : St F)
    (ht : tick st = some st1) (hl : evalE ops ext prog n l st1 = .ok (.bool true) st2) :
    evalE ops ext prog (n + 1) (.binary .or l r) st = .ok (.bool true) st2 := by
  simp [evalE, ht, hl, canShortCircuit, applyBinary, binBool]

/-- only `and`/`or` on a bool short-circuit -/
theorem short_circuit_only_and_or (op : Op) (v : Val F) (h : canShortCircuit op v = true) :
    (op = .and ∧ v = .bool false) ∨ (op = .or ∧ v = .bool true) := by
  unfold canShortCircuit at h
  split at h
  · exact .inl ⟨rfl, congrArg Val.bool ((Bool.not_eq_true' _).mp h)⟩
  · exact .inr ⟨rfl, congrArg Val.bool h⟩
  · cases h

/-- list elements / call arguments: head first, then the rest in the state the head left -/
theorem list_left_to_right (n : Nat) (e : Expr F) (es : List (Expr F)) (st st1 st2 : St F) (v : Val F) (vs : List (Val F))
    (h1 : evalE ops ext prog n e st = .ok v st1) (h2 : evalList ops ext prog n es st1 = .ok vs st2) :
    evalList ops ext prog (n + 1) (e :: es) st = .ok (v :: vs) st2 := by
  simp [evalList, h1, h2]

theorem list_stops_at_first_error (n : Nat) (e : Expr F) (es : List (Expr F)) (st st1 : St F) (o : Outcome)
    (h1 : evalE ops ext prog n e st = .err o st1) :
    evalList ops ext prog (n + 1) (e :: es) st = .err o st1 := by
  simp [evalList, h1]

/-- map literal values in source order -/
theorem map_values_in_source_order (n : Nat) (k : Str) (e : Expr F) (ps : List (Str × Expr F)) (st st1 st2 : St F)
    (v : Val F) (vs : List (Key × Val F))
    (h1 : evalE ops ext prog n e st = .ok v st1) (h2 : evalPairs ops ext prog n ps st1 = .ok vs st2) :
    evalPairs ops ext prog (n + 1) ((k, e) :: ps) st = .ok ((k, v) :: vs) st2 := by
  simp [evalPairs, h1, h2]

theorem group_transparent (n : Nat) (e : Expr F) (st st1 : St F) (ht : tick st = some st1) :
    evalE ops ext prog (n + 1) (.group e) st = evalE ops ext prog n e st1 := by
  simp [evalE, ht]

theorem unary_ops (n : Nat) (e : Expr F) (st st1 st2 : St F) (ht : tick st = some st1) :
    (∀ v, evalE ops ext prog n e st1 = .ok (.num v) st2 →
      evalE ops ext prog (n + 1) (.unary .minus e) st = .ok (.num (ops.neg v)) st2) ∧
    (∀ b, evalE ops ext prog n e st1 = .ok (.bool b) st2 →
      evalE ops ext prog (n + 1) (.unary .bang e) st = .ok (.bool (!b)) st2) := by
  constructor <;> intro v h <;> simp [evalE, ht, h]

/-! Non-vacuity (integer toy carrier): `false and (1/0 …)` never touches the right operand -/
example : ∃ st', evalE intOps ⟨fun _ _ => none⟩ ⟨[], [], []⟩ 5
    (.binary .and (.bool false) (.var ['u'])) ({} : St Int) = .ok (.bool false) st' := ⟨_, rfl⟩
example : ∃ st', evalE intOps ⟨fun _ _ => none⟩ ⟨[], [], []⟩ 5
    (.binary .minus (.num 7) (.binary .asterisk (.num 2) (.num 3))) ({} : St Int) = .ok (.num 1) st' := ⟨_, rfl⟩

end EvyV.C01
