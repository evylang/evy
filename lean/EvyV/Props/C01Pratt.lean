import EvyV.Props.C06Layout
import EvyV.Gen.Tables
/-!
C01, precedence and associativity: the Pratt parser model returns, for every token sequence, exactly
the tree that the specification's precedence levels and left associativity prescribe.

The flag-free parser (Model/Pratt.lean) is the parser with whitespace (Model/PrattW.lean) on tokens without
whitespace, outside a whitespace-sensitive context (`lift_step`, and `erase_step` of Props/C01PrattW.lean), so what is
proved of that parser carries over: soundness from `parseW_sound`, completeness from `layout_reparses`
(Props/C06Layout.lean: C01 rests on the formatter's Model/PrattFmt.lean as well).
-/
namespace EvyV.Pratt

/-! ### the binding powers are those of the source (regenerated on every run) -/

theorem table_is_extracted :
    (∀ o ∈ BinOp.all, Gen.precedences.lookup o.tokName = some o.prec) ∧
    Gen.precedences.lookup "LBRACKET" = some indexPrec ∧
    Gen.precLevels.idxOf "unaryPrec" = unaryPrec ∧ Gen.precLevels.idxOf "indexPrec" = indexPrec ∧
    Gen.parseExprLoopIsStrict = true ∧ Gen.binaryRightUsesOwnPrec = true ∧ Gen.unaryOperandUsesUnaryPrec = true := by
  decide

/-- plain tokens as flagged tokens without whitespace -/
def lift (ts : List Tok) : List WTok := ts.map (⟨false, ·⟩)

@[simp] theorem lift_cons (t : Tok) (ts : List Tok) : lift (t :: ts) = ⟨false, t⟩ :: lift ts := rfl
@[simp] theorem er_lift (ts : List Tok) : er (lift ts) = ts := by simp [er, lift, Function.comp_def]
@[simp] theorem headWs_lift (ts : List Tok) : headWs (lift ts) = false := by cases ts <;> rfl

theorem lift_step (f : Nat) :
    (∀ p ts x, parseExpr f p ts = some x → parseExprW false f p (lift ts) = some (x.1, lift x.2)) ∧
    (∀ p l ts x, loop f p l ts = some x → loopW false f p l (lift ts) = some (x.1, lift x.2)) := by
  induction f with
  | zero => constructor <;> intros <;> contradiction
  | succ n ih =>
    obtain ⟨ihP, ihL⟩ := ih
    constructor
    · intro p ts x h
      unfold parseExpr at h
      split at h
      · -- an atom
        rw [lift_cons, parseExprW_atom]; exact ihL _ _ _ _ h
      · -- `!`, then the operand
        split at h <;> try cases h
        rename_i e r' he
        exact (parseExprW_un (u := .not) (headWs_lift _) (ihP _ _ _ he)).trans (ihL _ _ _ _ h)
      · -- unary `-`, then the operand
        split at h <;> try cases h
        rename_i e r' he
        exact (parseExprW_un (u := .neg) (headWs_lift _) (ihP _ _ _ he)).trans (ihL _ _ _ _ h)
      · -- `(`, an expression, `)`
        split at h <;> try cases h
        rename_i e r' he
        exact (parseExprW_group (w' := false) (ihP _ _ _ he)).trans (ihL _ _ _ _ h)
      · cases h
    · intro p l ts x h
      by_cases hs : hp ts ≤ p
      · rw [loop_stop hs] at h; cases h; exact loopW_stop (by simpa using hs)
      · -- the next token binds tighter than `p`: it is an operator, `[` or `.`
        rcases ts with _ | ⟨t, r⟩
        · exact absurd (Nat.zero_le p) hs
        · have hpt : p < t.prec := Nat.lt_of_not_le hs
          cases t <;> simp only [Tok.prec] at hpt <;> try exact absurd hpt (Nat.not_lt_zero p)
          · rw [loop, if_pos hpt] at h
            split at h
            · rename_i e r' he
              rw [lift_cons, loopW_op rfl hpt rfl (ihP _ _ _ he)]; exact ihL _ _ _ _ h
            · cases h
          · rw [loop, if_pos hpt, bracket_eq_G] at h
            rw [lift_cons, loopW_lbracket hpt]
            exact bracketG_map (WTok.mk false) (k := WTok.tok) rfl (ihP 0) (ihL p) _ _ _ h
          · rw [loop, if_pos hpt] at h
            rw [lift_cons, loopW_dot hpt]
            unfold dotted at h
            split at h <;> first | exact ihL _ _ _ _ h | cases h

/-- `completeW` for the flag-free parser; nothing else uses it -/
theorem complete (e : E) : WF e → ∀ (f p : Nat) (rest : List Tok) (x : E × List Tok),
    p < llvl e → hp rest ≤ rlvl e → loop f p e rest = some x →
    parseExpr (f + 2 * (toks e).length) p (toks e ++ rest) = some x := by
  intro hw f p rest x hp' hr h
  have := (erase_step _).1 _ _ _ (completeW e hw false false f p (lift rest) _ hp' (Or.inr (by simpa using hr))
    ((lift_step f).2 p e rest x h))
  simpa [er_append, er_layout] using this

/-- **completeness**: on the tokens of any precedence-respecting tree, followed by anything that
does not continue an expression, the parser returns exactly that tree and stops there -/
theorem parse_toks (e : E) (rest : List Tok) (hw : WF e) (hr : hp rest = 0) :
    parse (toks e ++ rest) = some (e, rest) := by
  simpa [er_append, er_layout] using
    erase_parse _ _ _ (layout_reparses false false e (lift rest) hw (Or.inr (by simpa using hr)))

/-- **soundness**: a tree the parser returns respects the precedence levels, and its tokens are
exactly the input consumed; what follows does not continue the expression -/
theorem parse_sound (ts : List Tok) (e : E) (rest : List Tok) (h : parse ts = some (e, rest)) :
    WF e ∧ ts = toks e ++ rest ∧ hp rest = 0 := by
  have h' : parseW false (lift ts) = some (e, lift rest) := by
    simpa [parseW, lift] using (lift_step _).1 _ _ _ h
  simpa using parseW_sound false _ _ _ h'

/-- the parser computes THE precedence-respecting reading: on any token sequence it returns `e`
(leaving `rest`, which does not continue the expression) iff `e` is a precedence-respecting tree
whose tokens, followed by `rest`, are the input -/
theorem parse_iff (ts : List Tok) (e : E) (rest : List Tok) :
    parse ts = some (e, rest) ↔ (WF e ∧ ts = toks e ++ rest ∧ hp rest = 0) := by
  constructor
  · exact parse_sound ts e rest
  · rintro ⟨w, heq, h0⟩
    rw [heq]; exact parse_toks e rest w h0

/-- two precedence-respecting trees with the same tokens are the same tree -/
theorem reading_unique (e₁ e₂ : E) (h₁ : WF e₁) (h₂ : WF e₂) (h : toks e₁ = toks e₂) : e₁ = e₂ := by
  have a := parse_toks e₂ [] h₂ rfl
  rw [← h, parse_toks e₁ [] h₁ rfl] at a
  exact (Prod.mk.inj (Option.some.inj a)).1

theorem spec_iff_wf (e : E) : Spec e ↔ WF e := by
  have lk : ∀ {l : E}, Spec l → ((indexPrec ≤ llvl l ∧ indexPrec ≤ rlvl l) ↔ indexPrec ≤ lvl l) := fun s => left_ok s (by decide)
  induction e with
  | atom n => exact Iff.rfl
  | group e ih => exact ih
  | un u e ih => exact and_congr ih (operand_ok e).symm
  | bin o l r ihl ihr =>
    have ho : o.prec < unaryPrec := Nat.lt_succ_of_le (prec_pos o).2
    have lo : ∀ {l : E}, Spec l → ((o.prec ≤ llvl l ∧ o.prec ≤ rlvl l) ↔ o.prec ≤ lvl l) := fun s =>
      left_ok s (Nat.le_of_lt (Nat.lt_trans ho (by decide)))
    exact ⟨fun ⟨sl, sr, h1, h2⟩ => ⟨ihl.1 sl, ihr.1 sr, ((lo sl).2 h1).1, ((lo sl).2 h1).2, (right_ok r ho).2 h2⟩,
      fun ⟨wl, wr, h1, h2, h3⟩ => ⟨ihl.2 wl, ihr.2 wr, (lo (ihl.2 wl)).1 ⟨h1, h2⟩, (right_ok r ho).1 h3⟩⟩
  | sliceAll l ihl | dot l _ ihl | assert l _ ihl =>
    exact ⟨fun ⟨sl, h⟩ => ⟨ihl.1 sl, (lk sl).2 h⟩, fun ⟨wl, h⟩ => ⟨ihl.2 wl, (lk (ihl.2 wl)).1 h⟩⟩
  | index l _ ihl iha | sliceTo l _ ihl iha | sliceFrom l _ ihl iha =>
    exact ⟨fun ⟨sl, sa, h⟩ => ⟨ihl.1 sl, iha.1 sa, (lk sl).2 h⟩, fun ⟨wl, wa, h⟩ => ⟨ihl.2 wl, iha.2 wa, (lk (ihl.2 wl)).1 h⟩⟩
  | slice l a b ihl iha ihb =>
    exact ⟨fun ⟨sl, sa, sb, h⟩ => ⟨ihl.1 sl, iha.1 sa, ihb.1 sb, (lk sl).2 h⟩,
      fun ⟨wl, wa, wb, h⟩ => ⟨ihl.2 wl, iha.2 wa, ihb.2 wb, (lk (ihl.2 wl)).1 h⟩⟩

/-- **C01, precedence and associativity**: the parser returns `e` iff `e` is the reading the
specification prescribes for the tokens consumed -/
theorem parser_computes_spec_reading (ts : List Tok) (e : E) (rest : List Tok) :
    parse ts = some (e, rest) ↔ (Spec e ∧ ts = toks e ++ rest ∧ hp rest = 0) := by
  rw [parse_iff, spec_iff_wf]

/-- **in a whitespace-sensitive context** (an argument, an array element) the tree is THE specification
reading of the tokens it consumed: it satisfies the precedence specification, and the flag-free parser run on
exactly those tokens builds the same tree -/
theorem wss_reading_is_plain_reading (ts : List WTok) (e : E) (r : List WTok) (h : parseW true ts = some (e, r)) :
    Spec e ∧ er ts = toks e ++ er r ∧ parse (toks e) = some (e, []) := by
  obtain ⟨w, heq, _⟩ := parseW_sound true ts e r h
  refine ⟨(spec_iff_wf e).mpr w, heq, ?_⟩
  simpa using parse_toks e [] w rfl

-- a - b - c is (a - b) - c
example : parse [.atom 0, .op .minus, .atom 1, .op .minus, .atom 2] =
    some (.bin .minus (.bin .minus (.atom 0) (.atom 1)) (.atom 2), []) := by decide
-- a + b * c is a + (b * c); a * b + c is (a * b) + c
example : parse [.atom 0, .op .plus, .atom 1, .op .star, .atom 2] =
    some (.bin .plus (.atom 0) (.bin .star (.atom 1) (.atom 2)), []) := by decide
-- -a[0] * b is (-(a[0])) * b
example : parse [.op .minus, .atom 0, .lbracket, .atom 1, .rbracket, .op .star, .atom 2] =
    some (.bin .star (.un .neg (.index (.atom 0) (.atom 1))) (.atom 2), []) := by decide
-- a or b and c == d < e + f * g: every level once
example : parse [.atom 0, .op .or, .atom 1, .op .and, .atom 2, .op .eq, .atom 3, .op .lt, .atom 4, .op .plus, .atom 5, .op .star, .atom 6] =
    some (.bin .or (.atom 0) (.bin .and (.atom 1) (.bin .eq (.atom 2) (.bin .lt (.atom 3) (.bin .plus (.atom 4) (.bin .star (.atom 5) (.atom 6)))))), []) := by decide
-- -m.k[1:][0] is -(((m.k)[1:])[0]); x.(T) + 1 is (x.(T)) + 1
example : parse [.op .minus, .atom 0, .dot, .atom 1, .lbracket, .atom 2, .colon, .rbracket, .lbracket, .atom 3, .rbracket] =
    some (.un .neg (.index (.sliceFrom (.dot (.atom 0) 1) (.atom 2)) (.atom 3)), []) := by decide
example : parse [.atom 0, .dot, .lparen, .ty 7, .rparen, .op .plus, .atom 1] =
    some (.bin .plus (.assert (.atom 0) 7) (.atom 1), []) := by decide
-- a[:] , a[:n+1], a[i*2:j]
example : parse [.atom 0, .lbracket, .colon, .rbracket] = some (.sliceAll (.atom 0), []) := by decide
example : parse [.atom 0, .lbracket, .colon, .atom 1, .op .plus, .atom 2, .rbracket] =
    some (.sliceTo (.atom 0) (.bin .plus (.atom 1) (.atom 2)), []) := by decide
example : parse [.atom 0, .lbracket, .atom 1, .op .star, .atom 2, .colon, .atom 3, .rbracket] =
    some (.slice (.atom 0) (.bin .star (.atom 1) (.atom 2)) (.atom 3), []) := by decide
-- a non-example: (a - (b - c)) without the parentheses is not a reading
example : ¬ Spec (.bin .minus (.atom 0) (.bin .minus (.atom 1) (.atom 2))) := by simp [Spec, lvl]

end EvyV.Pratt
