import EvyV.Lemmas.PrattSpec
import EvyV.Model.PrattW
/-!
C01, "whatever optional whitespace layout the source uses", for the expression parser: in both modes what it returns
is the precedence-respecting reading of the tokens consumed (`parseW_sound`), and outside whitespace-sensitive
contexts the flags never change the reading (`erase_parse`). One lemma, `bracketG_map` (a run of `bracketG` is carried
along any map of tokens that keeps their kinds), gives with `id`, `WTok.tok`, `WTok.mk false` fuel monotonicity, the
erasure of the flags and the way back (`lift_step`, Props/C01Pratt.lean).
-/
namespace EvyV.Pratt

@[simp] theorem er_nil : er [] = [] := rfl
@[simp] theorem er_cons (t : WTok) (ts : List WTok) : er (t :: ts) = t.tok :: er ts := rfl

/-- binding power of the next token as the loop sees it in mode `wss`: whitespace ends a whitespace-sensitive expression -/
def hpW (wss : Bool) (ts : List WTok) : Nat := if wss && headWs ts then 0 else hp (er ts)

@[simp] theorem hpW_nil (wss : Bool) : hpW wss [] = 0 := by simp [hpW, hp]
theorem hpW_cons (wss w : Bool) (t : Tok) (r : List WTok) : hpW wss (⟨w, t⟩ :: r) = if wss && w then 0 else t.prec := rfl
@[simp] theorem hpW_cons_false (wss : Bool) (t : Tok) (r : List WTok) : hpW wss (⟨false, t⟩ :: r) = t.prec := by simp [hpW_cons]
@[simp] theorem hpW_false (ts : List WTok) : hpW false ts = hp (er ts) := rfl

theorem hpW_cons_le (wss w : Bool) (t : Tok) (r : List WTok) : hpW wss (⟨w, t⟩ :: r) ≤ t.prec := by
  rw [hpW_cons]; split
  · exact Nat.zero_le _
  · exact Nat.le_refl _

theorem hpW_le (wss : Bool) (ts : List WTok) : hpW wss ts ≤ indexPrec := by
  rcases ts with _ | ⟨⟨w, t⟩, r⟩
  · simp
  · refine Nat.le_trans (hpW_cons_le ..) ?_
    cases t <;> simp [Tok.prec, indexPrec]
    exact Nat.le_trans (prec_pos _).2 (by omega)

theorem hpW_le_iff (wss : Bool) (ts : List WTok) (n : Nat) : hpW wss ts ≤ n ↔ (wss = true ∧ headWs ts = true) ∨ hp (er ts) ≤ n := by
  unfold hpW; split <;> simp_all

section G
variable {τ : Type} {k : τ → Tok} {pe : List τ → Option (E × List τ)} {lp : E → List τ → Option (E × List τ)} {left : E} {r : List τ}

theorem bracketG_sliceAll {tl : List Tok} (h : r.map k = .colon :: .rbracket :: tl) :
    bracketG k pe lp left r = lp (.sliceAll left) (r.drop 2) := by
  unfold bracketG; simp only [h]

theorem bracketG_colon {tl : List Tok} (h : r.map k = .colon :: tl) (hne : ∀ tl', tl ≠ .rbracket :: tl') :
    bracketG k pe lp left r =
      match pe (r.drop 1) with
      | some (b, r2) => (match r2.map k with | .rbracket :: _ => lp (.sliceTo left b) (r2.drop 1) | _ => none)
      | none => none := by
  unfold bracketG
  split
  · rename_i h'; rw [h] at h'; exact absurd (List.cons.inj h').2 (hne _)
  · rfl
  · rename_i h'; exact absurd h (h' _)

theorem bracketG_expr (h : ∀ tl, r.map k ≠ .colon :: tl) :
    bracketG k pe lp left r =
      match pe r with
      | some (i, r') =>
        (match r'.map k with
        | .rbracket :: _ => lp (.index left i) (r'.drop 1)
        | .colon :: .rbracket :: _ => lp (.sliceFrom left i) (r'.drop 2)
        | .colon :: _ =>
          (match pe (r'.drop 1) with
          | some (b, r2) => (match r2.map k with | .rbracket :: _ => lp (.slice left i b) (r2.drop 1) | _ => none)
          | none => none)
        | _ => none)
      | none => none := by
  unfold bracketG
  split
  · rename_i h'; exact absurd h' (h _)
  · rename_i h'; exact absurd h' (h _)
  · rfl
end G

/-- both sides are the same decision tree, `bracket` matching on the lists, `bracketG` on their images under `map id` -/
theorem bracket_eq_G (pe : List Tok → Option (E × List Tok)) (lp : E → List Tok → Option (E × List Tok)) (left : E) (r : List Tok) :
    bracket pe lp left r = bracketG id pe lp left r := by
  unfold bracket
  split
  · rw [bracketG_sliceAll (List.map_id _)]; rfl
  · rename_i r1 hne
    rw [bracketG_colon (List.map_id _) (fun _ h => hne _ h)]
    simp only [List.map_id, List.drop_succ_cons, List.drop_zero]
    rcases pe r1 with _ | ⟨b, _ | ⟨t, r2⟩⟩ <;> try rfl
    cases t <;> rfl
  · rename_i h1 h2
    rw [bracketG_expr (fun _ h => h2 _ (by simpa using h))]
    split
    · rename_i i r' hi; simp only [hi]; rfl
    · rename_i a r' ha; simp only [ha]; rfl
    · rename_i a r1 hne ha
      simp only [ha, List.map_id, List.drop_succ_cons, List.drop_zero]
      rcases pe r1 with _ | ⟨b, _ | ⟨t, r2⟩⟩ <;> try rfl
      cases t <;> rfl
    · rename_i hi ha hs
      rcases hx : pe r with _ | ⟨i, r'⟩
      · rfl
      · simp only [List.map_id]
        split
        · exact absurd hx (hi _ _)
        · exact absurd hx (ha _ _)
        · exact absurd hx (hs _ _)
        · rfl

section
variable {wss : Bool} {f p : Nat} {l : E} {ts : List WTok} {x : E × List WTok}

theorem loopW_stop (h : hpW wss ts ≤ p) : loopW wss (f + 1) p l ts = some (l, ts) := by
  rcases ts with _ | ⟨⟨w, t⟩, r⟩
  · rfl
  · rw [hpW_cons] at h
    cases t <;> try rfl
    all_goals
      rw [loopW]
      split at h
      · rename_i hw; simp only [hw, if_true]
      · rename_i hw; simp only [hw, Bool.false_eq_true, if_false]; exact if_neg (Nat.not_lt.2 h)

theorem loopW_inv (h : loopW wss (f + 1) p l ts = some x) :
    (hpW wss ts ≤ p ∧ x = (l, ts)) ∨
    (∃ w o r e r', ts = ⟨w, .op o⟩ :: r ∧ (wss && w) = false ∧ p < o.prec ∧ (wss && headWs r) = false ∧
      parseExprW wss f o.prec r = some (e, r') ∧ loopW wss f p (.bin o l e) r' = some x) ∨
    (∃ r, ts = ⟨false, .lbracket⟩ :: r ∧ p < indexPrec ∧ bracketW (parseExprW false f 0) (loopW wss f p) l r = some x) ∨
    (∃ r, ts = ⟨false, .dot⟩ :: r ∧ p < indexPrec ∧ dottedW (loopW wss f p) l r = some x) := by
  by_cases hs : hpW wss ts ≤ p
  · rw [loopW_stop hs] at h; exact Or.inl ⟨hs, (Option.some.inj h).symm⟩
  · refine Or.inr ?_
    rcases ts with _ | ⟨⟨w, t⟩, r⟩
    · simp at hs
    · rw [hpW_cons] at hs
      split at hs
      · omega
      · rename_i hw
        cases t <;> simp only [Tok.prec, Nat.not_le, Nat.not_lt_zero] at hs
        · rw [loopW] at h
          simp only [hw, hs, Bool.false_eq_true, if_false, if_true] at h
          split at h
          · cases h
          · rename_i hw2
            split at h
            · rename_i e r' he; exact Or.inl ⟨w, _, r, e, r', rfl, by simpa using hw, hs, by simpa using hw2, he, h⟩
            · cases h
        -- `[` and `.`: whitespace before either is an error
        all_goals
          rw [loopW] at h
          simp only [hw, hs, Bool.false_eq_true, if_false, if_true] at h
          split at h
          · cases h
          · rename_i hw2; simp only [Bool.not_eq_true] at hw2; subst hw2
            first | exact Or.inr (Or.inl ⟨r, rfl, hs, h⟩) | exact Or.inr (Or.inr ⟨r, rfl, hs, h⟩)

theorem parseExprW_inv (h : parseExprW wss (f + 1) p ts = some x) :
    (∃ w n r, ts = ⟨w, .atom n⟩ :: r ∧ loopW wss f p (.atom n) r = some x) ∨
    (∃ w u r e r', ts = ⟨w, UnOp.tok u⟩ :: r ∧ headWs r = false ∧ parseExprW wss f unaryPrec r = some (e, r') ∧
      loopW wss f p (.un u e) r' = some x) ∨
    (∃ w r e w' r', ts = ⟨w, .lparen⟩ :: r ∧ parseExprW false f 0 r = some (e, ⟨w', .rparen⟩ :: r') ∧
      loopW wss f p (.group e) r' = some x) := by
  unfold parseExprW at h
  split at h
  · exact Or.inl ⟨_, _, _, rfl, h⟩
  · split at h
    · cases h
    · rename_i hw
      split at h
      · rename_i e r' he; exact Or.inr (Or.inl ⟨_, .not, _, e, r', rfl, by simpa using hw, he, h⟩)
      · cases h
  · split at h
    · cases h
    · rename_i hw
      split at h
      · rename_i e r' he; exact Or.inr (Or.inl ⟨_, .neg, _, e, r', rfl, by simpa using hw, he, h⟩)
      · cases h
  · split at h
    · rename_i e w' r' he; exact Or.inr (Or.inr ⟨_, _, e, w', r', rfl, he, h⟩)
    · cases h
  · cases h

theorem er_split {r : List WTok} {t : Tok} {tl : List Tok} (h : List.map WTok.tok r = t :: tl) :
    ∃ w r', r = ⟨w, t⟩ :: r' ∧ er r' = tl := by
  obtain ⟨⟨w, _⟩, r', rfl, rfl, rfl⟩ := List.map_eq_cons_iff.1 h
  exact ⟨w, r', rfl, rfl⟩

theorem bracketW_inv {pe : List WTok → Option (E × List WTok)} {lp : E → List WTok → Option (E × List WTok)} {left : E} {r : List WTok}
    (h : bracketW pe lp left r = some x) :
    (∃ w w' r', r = ⟨w, .colon⟩ :: ⟨w', .rbracket⟩ :: r' ∧ lp (.sliceAll left) r' = some x) ∨
    (∃ w r1 b w' r', r = ⟨w, .colon⟩ :: r1 ∧ pe r1 = some (b, ⟨w', .rbracket⟩ :: r') ∧ lp (.sliceTo left b) r' = some x) ∨
    (∃ i w r', pe r = some (i, ⟨w, .rbracket⟩ :: r') ∧ lp (.index left i) r' = some x) ∨
    (∃ a w w' r', pe r = some (a, ⟨w, .colon⟩ :: ⟨w', .rbracket⟩ :: r') ∧ lp (.sliceFrom left a) r' = some x) ∨
    (∃ a w r1 b w' r', pe r = some (a, ⟨w, .colon⟩ :: r1) ∧ pe r1 = some (b, ⟨w', .rbracket⟩ :: r') ∧ lp (.slice left a b) r' = some x) := by
  unfold bracketW bracketG at h
  split at h
  · rename_i tl heq
    obtain ⟨w, _, rfl, q⟩ := er_split heq
    obtain ⟨w', r', rfl, _⟩ := er_split q
    exact Or.inl ⟨w, w', r', rfl, h⟩
  · rename_i tl _ heq
    obtain ⟨w, r1, rfl, _⟩ := er_split heq
    split at h
    · rename_i b r2 hb
      split at h
      · rename_i tl2 heq2
        obtain ⟨w', r', rfl, _⟩ := er_split heq2
        exact Or.inr (Or.inl ⟨w, r1, b, w', r', rfl, hb, h⟩)
      · cases h
    · cases h
  · split at h
    · rename_i i r' hi
      split at h
      · rename_i tl2 heq2
        obtain ⟨w, r', rfl, _⟩ := er_split heq2
        exact Or.inr (Or.inr (Or.inl ⟨i, w, r', hi, h⟩))
      · rename_i tl2 heq2
        obtain ⟨w, _, rfl, q⟩ := er_split heq2
        obtain ⟨w', r', rfl, _⟩ := er_split q
        exact Or.inr (Or.inr (Or.inr (Or.inl ⟨i, w, w', r', hi, h⟩)))
      · rename_i tl2 _ heq2
        obtain ⟨w, r1, rfl, _⟩ := er_split heq2
        split at h
        · rename_i b r2 hb
          split at h
          · rename_i tl3 heq3
            obtain ⟨w', r', rfl, _⟩ := er_split heq3
            exact Or.inr (Or.inr (Or.inr (Or.inr ⟨i, w, r1, b, w', r', hi, hb, h⟩)))
          · cases h
        · cases h
      · cases h
    · cases h

-- `bracketW_inv` backwards; of an operand's tokens, only how they do not begin
section
variable {pe : List WTok → Option (E × List WTok)} {lp : E → List WTok → Option (E × List WTok)} {r r1 r' : List WTok} {w w' : Bool}

theorem bracketW_sliceAll (left : E) : bracketW pe lp left (⟨w, .colon⟩ :: ⟨w', .rbracket⟩ :: r') = lp (.sliceAll left) r' :=
  bracketG_sliceAll rfl

theorem bracketW_sliceTo (left b : E) (hr : ∀ tl, r1.map WTok.tok ≠ .rbracket :: tl) (hb : pe r1 = some (b, ⟨w', .rbracket⟩ :: r')) :
    bracketW pe lp left (⟨w, .colon⟩ :: r1) = lp (.sliceTo left b) r' := by
  rw [bracketW, bracketG_colon rfl hr]
  simp only [List.drop_succ_cons, List.drop_zero, hb]; rfl

theorem bracketW_index (left i : E) (hc : ∀ tl, r.map WTok.tok ≠ .colon :: tl) (hi : pe r = some (i, ⟨w, .rbracket⟩ :: r')) :
    bracketW pe lp left r = lp (.index left i) r' := by
  rw [bracketW, bracketG_expr hc, hi]; rfl

theorem bracketW_sliceFrom (left a : E) (hc : ∀ tl, r.map WTok.tok ≠ .colon :: tl)
    (ha : pe r = some (a, ⟨w, .colon⟩ :: ⟨w', .rbracket⟩ :: r')) : bracketW pe lp left r = lp (.sliceFrom left a) r' := by
  rw [bracketW, bracketG_expr hc, ha]; rfl

theorem bracketW_slice (left a b : E) (hc : ∀ tl, r.map WTok.tok ≠ .colon :: tl) (hr : ∀ tl, r1.map WTok.tok ≠ .rbracket :: tl)
    (ha : pe r = some (a, ⟨w, .colon⟩ :: r1)) (hb : pe r1 = some (b, ⟨w', .rbracket⟩ :: r')) :
    bracketW pe lp left r = lp (.slice left a b) r' := by
  rw [bracketW, bracketG_expr hc, ha]
  simp only [List.map_cons, List.drop_succ_cons, List.drop_zero, hb]
end

theorem parseExprW_atom {w : Bool} {n : Nat} {r : List WTok} :
    parseExprW wss (f + 1) p (⟨w, .atom n⟩ :: r) = loopW wss f p (.atom n) r := by rw [parseExprW]

theorem parseExprW_un {w : Bool} {u : UnOp} {e : E} {r r' : List WTok} (hw : headWs r = false)
    (he : parseExprW wss f unaryPrec r = some (e, r')) :
    parseExprW wss (f + 1) p (⟨w, u.tok⟩ :: r) = loopW wss f p (.un u e) r' := by
  cases u <;> simp only [UnOp.tok, parseExprW, hw, Bool.false_eq_true, if_false, he]

theorem parseExprW_group {w w' : Bool} {e : E} {r r' : List WTok} (he : parseExprW false f 0 r = some (e, ⟨w', .rparen⟩ :: r')) :
    parseExprW wss (f + 1) p (⟨w, .lparen⟩ :: r) = loopW wss f p (.group e) r' := by
  simp only [parseExprW, he]

theorem loopW_op {w : Bool} {o : BinOp} {e : E} {r r' : List WTok} (hw : (wss && w) = false) (hp : p < o.prec)
    (hw' : (wss && headWs r) = false) (he : parseExprW wss f o.prec r = some (e, r')) :
    loopW wss (f + 1) p l (⟨w, .op o⟩ :: r) = loopW wss f p (.bin o l e) r' := by
  simp only [loopW, hw, hw', Bool.false_eq_true, if_false, hp, if_true, he]

theorem loopW_lbracket {r : List WTok} (hp : p < indexPrec) :
    loopW wss (f + 1) p l (⟨false, .lbracket⟩ :: r) = bracketW (parseExprW false f 0) (loopW wss f p) l r := by
  simp only [loopW, Bool.and_false, Bool.false_eq_true, if_false, hp, if_true]

theorem loopW_dot {r : List WTok} (hp : p < indexPrec) :
    loopW wss (f + 1) p l (⟨false, .dot⟩ :: r) = dottedW (loopW wss f p) l r := by
  simp only [loopW, Bool.and_false, Bool.false_eq_true, if_false, hp, if_true]

end

theorem bracketG_map {σ τ : Type} (g : σ → τ) {k : τ → Tok} {k' : σ → Tok} (hk : k' = k ∘ g)
    {pe : List σ → Option (E × List σ)} {lp : E → List σ → Option (E × List σ)}
    {pe' : List τ → Option (E × List τ)} {lp' : E → List τ → Option (E × List τ)}
    (hpe : ∀ ts x, pe ts = some x → pe' (ts.map g) = some (x.1, x.2.map g))
    (hlp : ∀ l ts x, lp l ts = some x → lp' l (ts.map g) = some (x.1, x.2.map g))
    (left : E) (r : List σ) (x : E × List σ) (h : bracketG k' pe lp left r = some x) :
    bracketG k pe' lp' left (r.map g) = some (x.1, x.2.map g) := by
  subst hk
  unfold bracketG at h ⊢
  simp only [List.map_map, ← List.map_drop]
  split at h
  · exact hlp _ _ _ h
  · split at h
    · rename_i b r2 hb
      simp only [hpe _ _ hb, List.map_map, ← List.map_drop]
      split at h
      · exact hlp _ _ _ h
      · cases h
    · cases h
  · split at h
    · rename_i i r' hi
      simp only [hpe _ _ hi, List.map_map, ← List.map_drop]
      split at h
      · exact hlp _ _ _ h
      · exact hlp _ _ _ h
      · split at h
        · rename_i b r2 hb
          simp only [hpe _ _ hb, List.map_map, ← List.map_drop]
          split at h
          · exact hlp _ _ _ h
          · cases h
        · cases h
      · cases h
    · cases h

theorem bracketG_mono {τ : Type} {k : τ → Tok} {pe pe' : List τ → Option (E × List τ)} {lp lp' : E → List τ → Option (E × List τ)}
    (hpe : ∀ ts x, pe ts = some x → pe' ts = some x) (hlp : ∀ l ts x, lp l ts = some x → lp' l ts = some x)
    {left : E} {r : List τ} {x : E × List τ} (h : bracketG k pe lp left r = some x) : bracketG k pe' lp' left r = some x := by
  simpa using bracketG_map id rfl (by simpa using hpe) (by simpa using hlp) left r x h

theorem mono_stepW (f : Nat) :
    (∀ wss p ts x, parseExprW wss f p ts = some x → parseExprW wss (f + 1) p ts = some x) ∧
    (∀ wss p l ts x, loopW wss f p l ts = some x → loopW wss (f + 1) p l ts = some x) := by
  induction f with
  | zero => constructor <;> intros <;> contradiction
  | succ n ih =>
    obtain ⟨ihP, ihL⟩ := ih
    constructor
    · intro wss p ts x h
      rcases parseExprW_inv h with ⟨w, a, r, rfl, h⟩ | ⟨w, u, r, e, r', rfl, hw, he, h⟩ | ⟨w, r, e, w', r', rfl, he, h⟩
      · rw [parseExprW_atom]; exact ihL _ _ _ _ _ h
      · rw [parseExprW_un hw (ihP _ _ _ _ he)]; exact ihL _ _ _ _ _ h
      · rw [parseExprW_group (ihP _ _ _ _ he)]; exact ihL _ _ _ _ _ h
    · intro wss p l ts x h
      rcases loopW_inv h with ⟨hs, rfl⟩ | ⟨w, o, r, e, r', rfl, hw, hp, hw', he, h⟩ | ⟨r, rfl, hp, h⟩ | ⟨r, rfl, hp, h⟩
      · exact loopW_stop hs
      · rw [loopW_op hw hp hw' (ihP _ _ _ _ he)]; exact ihL _ _ _ _ _ h
      · rw [loopW_lbracket hp]
        exact bracketG_mono (ihP false 0) (ihL wss p) h
      · rw [loopW_dot hp]; unfold dottedW at h ⊢
        split at h <;> first | exact ihL _ _ _ _ _ h | cases h

theorem mono_loopW {f g : Nat} (hfg : f ≤ g) {wss p l ts x} (h : loopW wss f p l ts = some x) : loopW wss g p l ts = some x := by
  induction hfg with
  | refl => exact h
  | step _ ih => exact (mono_stepW _).2 _ _ _ _ _ ih

/-- the next token could not have been absorbed into the right spine of the tree (`≤ rlvl`) nor taken by this loop
(`≤ p`); the tree binds tighter than the caller's power (`p < llvl`) -/
def GoodW (wss : Bool) (p : Nat) (ts : List Tok) (x : E × List WTok) : Prop :=
  WF x.1 ∧ ts = toks x.1 ++ er x.2 ∧ hpW wss x.2 ≤ rlvl x.1 ∧ hpW wss x.2 ≤ p ∧ p < llvl x.1

theorem sound_stepW (f : Nat) :
    (∀ wss p ts x, p ≤ unaryPrec → parseExprW wss f p ts = some x → GoodW wss p (er ts) x) ∧
    (∀ wss p l ts x, p ≤ unaryPrec → WF l → hpW wss ts ≤ rlvl l → p < llvl l → loopW wss f p l ts = some x →
      GoodW wss p (toks l ++ er ts) x) := by
  induction f with
  | zero => constructor <;> intros <;> contradiction
  | succ n ih =>
    obtain ⟨ihP, ihL⟩ := ih
    constructor
    · intro wss p ts x hpu h
      rcases parseExprW_inv h with ⟨w, a, r, rfl, h⟩ | ⟨w, u, r, e, r', rfl, hw, he, h⟩ | ⟨w, r, e, w', r', rfl, he, h⟩
      · exact ihL wss p (.atom a) r x hpu trivial (Nat.le_succ_of_le (hpW_le ..)) (Nat.lt_succ_of_le (Nat.le_succ_of_le hpu)) h
      · obtain ⟨we, heq, h1, h2, h3⟩ := ihP wss _ _ _ (Nat.le_refl _) he
        have g := ihL wss p (.un u e) r' x hpu ⟨we, h3⟩ (Nat.le_min.2 ⟨h2, h1⟩) (Nat.lt_succ_of_le (Nat.le_succ_of_le hpu)) h
        rwa [toks_un, List.cons_append, ← heq] at g
      · obtain ⟨we, heq, _⟩ := ihP false _ _ _ (by decide) he
        have g := ihL wss p (.group e) r' x hpu we (Nat.le_succ_of_le (hpW_le ..)) (Nat.lt_succ_of_le (Nat.le_succ_of_le hpu)) h
        simpa [toks, heq] using g
    · intro wss p l ts x hpu hwl hr hl h
      -- after `l`, a postfix item: the new left operand binds at `indexPrec` on the left and is closed on the right
      have post : ∀ (e' : E) (r' : List WTok), WF e' → llvl e' = indexPrec → rlvl e' = 9 → loopW wss n p e' r' = some x →
          GoodW wss p (toks e' ++ er r') x := fun e' r' we hl' hr' hh =>
        ihL wss p e' r' x hpu we (hr' ▸ Nat.le_succ_of_le (hpW_le ..)) (hl' ▸ Nat.lt_of_le_of_lt hpu (by decide)) hh
      rcases loopW_inv h with ⟨hs, rfl⟩ | ⟨w, o, r, e, r', rfl, hw, hpo, hw', he, h⟩ | ⟨r, rfl, hpo, h⟩ | ⟨r, rfl, hpo, h⟩
      · exact ⟨hwl, rfl, hr, hs, hl⟩
      · simp only [hpW_cons, hw, Bool.false_eq_true, if_false, Tok.prec] at hr
        obtain ⟨we, heq, h1, h2, h3⟩ := ihP wss _ _ _ (Nat.le_succ_of_le (prec_pos o).2) he
        have g := ihL wss p (.bin o l e) r' x hpu ⟨hwl, we, le_llvl_of_le_rlvl (Nat.le_trans (prec_pos o).2 (by decide)) hr, hr, h3⟩ (Nat.le_min.2 ⟨h2, h1⟩) hpo h
        simpa [toks, heq] using g
      · rw [hpW_cons_false] at hr
        rcases bracketW_inv h with ⟨w, w', r', rfl, h⟩ | ⟨w, r1, b, w', r', rfl, hb, h⟩ | ⟨i, w, r', hi, h⟩ | ⟨a, w, w', r', ha, h⟩ |
          ⟨a, w, r1, b, w', r', ha, hb, h⟩
        · simpa [toks] using post (.sliceAll l) r' ⟨hwl, le_llvl_of_le_rlvl (by decide) hr, hr⟩ rfl rfl h
        · obtain ⟨wb, heqb, _⟩ := ihP false _ _ _ (by decide) hb
          simpa [toks, heqb] using post (.sliceTo l b) r' ⟨hwl, wb, le_llvl_of_le_rlvl (by decide) hr, hr⟩ rfl rfl h
        · obtain ⟨wi, heqi, _⟩ := ihP false _ _ _ (by decide) hi
          simpa [toks, heqi] using post (.index l i) r' ⟨hwl, wi, le_llvl_of_le_rlvl (by decide) hr, hr⟩ rfl rfl h
        · obtain ⟨wa, heqa, _⟩ := ihP false _ _ _ (by decide) ha
          simpa [toks, heqa] using post (.sliceFrom l a) r' ⟨hwl, wa, le_llvl_of_le_rlvl (by decide) hr, hr⟩ rfl rfl h
        · obtain ⟨wa, heqa, _⟩ := ihP false _ _ _ (by decide) ha
          obtain ⟨wb, heqb, _⟩ := ihP false _ _ _ (by decide) hb
          simpa [toks, heqa, heqb] using post (.slice l a b) r' ⟨hwl, wa, wb, le_llvl_of_le_rlvl (by decide) hr, hr⟩ rfl rfl h
      · rw [hpW_cons_false] at hr
        unfold dottedW at h
        split at h
        · simpa [toks] using post (.assert l _) _ ⟨hwl, le_llvl_of_le_rlvl (by decide) hr, hr⟩ rfl rfl h
        · simpa [toks] using post (.dot l _) _ ⟨hwl, le_llvl_of_le_rlvl (by decide) hr, hr⟩ rfl rfl h
        · cases h

/-- **soundness in both modes**: a tree the parser returns respects the precedence levels and its tokens are
exactly the tokens consumed; what follows does not continue the expression, or — in a whitespace-sensitive
context only — begins with whitespace -/
theorem parseW_sound (wss : Bool) (ts : List WTok) (e : E) (r : List WTok) (h : parseW wss ts = some (e, r)) :
    WF e ∧ er ts = toks e ++ er r ∧ ((wss = true ∧ headWs r = true) ∨ hp (er r) = 0) := by
  obtain ⟨w, heq, _, h0, _⟩ := (sound_stepW _).1 wss 0 ts (e, r) (Nat.zero_le _) h
  exact ⟨w, heq, by simpa using (hpW_le_iff ..).1 h0⟩

theorem loop_stop {f p : Nat} {l : E} {ts : List Tok} (h : hp ts ≤ p) : loop (f + 1) p l ts = some (l, ts) := by
  rcases ts with _ | ⟨t, r⟩
  · rfl
  · cases t <;> first | rfl | exact if_neg (Nat.not_lt.2 h)

theorem loop_op {f p : Nat} {l e : E} {o : BinOp} {r r' : List Tok} (hp : p < o.prec) (he : parseExpr f o.prec r = some (e, r')) :
    loop (f + 1) p l (.op o :: r) = loop f p (.bin o l e) r' := by
  simp only [loop, hp, if_true, he]

theorem parseExpr_un {f p : Nat} {u : UnOp} {e : E} {r r' : List Tok} (he : parseExpr f unaryPrec r = some (e, r')) :
    parseExpr (f + 1) p (u.tok :: r) = loop f p (.un u e) r' := by
  cases u <;> simp only [UnOp.tok, parseExpr, he]

theorem erase_step (f : Nat) :
    (∀ p ts x, parseExprW false f p ts = some x → parseExpr f p (er ts) = some (x.1, er x.2)) ∧
    (∀ p l ts x, loopW false f p l ts = some x → loop f p l (er ts) = some (x.1, er x.2)) := by
  induction f with
  | zero => constructor <;> intros <;> contradiction
  | succ n ih =>
    obtain ⟨ihP, ihL⟩ := ih
    constructor
    · intro p ts x h
      rcases parseExprW_inv h with ⟨w, a, r, rfl, h⟩ | ⟨w, u, r, e, r', rfl, hw, he, h⟩ | ⟨w, r, e, w', r', rfl, he, h⟩
      · rw [er_cons, parseExpr]; exact ihL _ _ _ _ h
      · rw [er_cons, parseExpr_un (ihP _ _ _ he)]; exact ihL _ _ _ _ h
      · rw [er_cons, parseExpr]; simp only [ihP _ _ _ he, er_cons]; exact ihL _ _ _ _ h
    · intro p l ts x h
      rcases loopW_inv h with ⟨hs, rfl⟩ | ⟨w, o, r, e, r', rfl, hw, hp, hw', he, h⟩ | ⟨r, rfl, hp, h⟩ | ⟨r, rfl, hp, h⟩
      · exact loop_stop hs
      · rw [er_cons, loop_op hp (ihP _ _ _ he)]; exact ihL _ _ _ _ h
      · rw [er_cons, loop]; simp only [hp, if_true]; rw [bracket_eq_G]
        exact bracketG_map WTok.tok rfl (ihP 0) (ihL p) _ _ _ h
      · rw [er_cons, loop]; simp only [hp, if_true]
        unfold dottedW at h
        split at h <;> first | exact ihL _ _ _ _ h | cases h

/-- **outside whitespace-sensitive contexts whitespace never changes the reading**: when the parser with
whitespace accepts, its tree and its rest are those of the flag-free parser on the token kinds -/
theorem erase_parse (ts : List WTok) (e : E) (r : List WTok) (h : parseW false ts = some (e, r)) :
    parse (er ts) = some (e, er r) := by
  simpa [parse, er] using (erase_step _).1 _ _ _ h

/-- two layouts of the same tokens that are both accepted are read as the same tree, with the same rest -/
theorem layout_irrelevant (ts ts' : List WTok) (e e' : E) (r r' : List WTok) (hk : er ts = er ts')
    (h : parseW false ts = some (e, r)) (h' : parseW false ts' = some (e', r')) : e = e' ∧ er r = er r' := by
  have a := erase_parse ts' e' r' h'
  rw [← hk, erase_parse ts e r h] at a
  exact Prod.mk.inj (Option.some.inj a)

/-! examples: `a -b` is one expression outside, two inside a whitespace-sensitive context; `a - b` and `a-b`
are the same tree; `- a` and `a [b]` are rejected -/
private def A (n : Nat) (ws : Bool := false) : WTok := ⟨ws, .atom n⟩
private def M (ws : Bool := false) : WTok := ⟨ws, .op .minus⟩

example : parseW false [A 0, M true, A 1] = some (.bin .minus (.atom 0) (.atom 1), []) := by decide
example : parseW true [A 0, M true, A 1] = some (.atom 0, [M true, A 1]) := by decide
example : parseW true [M true, A 1] = some (.un .neg (.atom 1), []) := by decide
example : parseW false [A 0, M true, A 1 true] = parseW false [A 0, M, A 1] := by decide
example : parseW true [A 0, M, A 1 true] = none := by decide
example : parseW false [M, A 1 true] = none := by decide
example : parseW false [A 0, ⟨true, .lbracket⟩, A 1, ⟨false, .rbracket⟩] = none := by decide
example : parseW true [A 0, ⟨true, .lbracket⟩, A 1, ⟨false, .rbracket⟩] = some (.atom 0, [⟨true, .lbracket⟩, A 1, ⟨false, .rbracket⟩]) := by decide
example : parseW true [⟨false, .lparen⟩, A 0, M true, A 1 true, ⟨true, .rparen⟩, M, A 2] =
    some (.bin .minus (.group (.bin .minus (.atom 0) (.atom 1))) (.atom 2), []) := by decide

end EvyV.Pratt
