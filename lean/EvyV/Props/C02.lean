import EvyV.Model.Interp
import EvyV.Props.C11
import EvyV.Lemmas.Sites
/-!
C02 — accepted programs never go wrong (type soundness).

Here: single evaluation steps of the model, and the regenerated inventories. Whole programs of the model are
`program_never_goes_wrong` (Props/C02Full.lean) and `checked_program_never_goes_wrong` (Props/C02Check.lean); that the
real evaluator agrees with the model is validated by the harness on generated programs and on every builtin x
value-class tuple.
-/
namespace EvyV.C02
variable {F : Type} (ops : NumOps F) (ext : Ext F) (prog : Program F)

/-- the evaluator has a case for every node kind and its fall-through is an error (regenerated) -/
theorem eval_cases_complete :
    (∀ k ∈ Gen.nodeKinds, k ∈ Gen.evalCases ∨ k = "ConditionalBlock" ∨ k = "StepRange") ∧
    Gen.evalFallThroughIsError = true := evalCases_cover

/-- **a value stored in an `any` always carries a concrete non-any value**: evaluating an `Any`
node either fails or yields `any t v` with `v` not itself an any -/
theorem any_is_concrete (n : Nat) (t : Ty) (e : Expr F) (st st' : St F) (v : Val F)
    (h : evalE ops ext prog (n + 1) (.any t e) st = .ok v st') :
    ∃ w, v = .any t w ∧ ∀ t2 w2, w ≠ .any t2 w2 := by
  simp only [evalE] at h
  cases ht : tick st with
  | none => simp [ht] at h
  | some st1 =>
    simp only [ht] at h
    cases he : evalE ops ext prog n e st1 with
    | err o s => simp [he] at h
    | ok w s =>
      cases w <;> simp [he] at h <;> (obtain ⟨rfl, _⟩ := h; exact ⟨_, rfl, by intro t2 w2; simp⟩)

/-- the dynamic type tag of an any value is the static type of the wrapped expression, which is
what `typeof` reports -/
theorem any_tag_is_static_type (n : Nat) (t : Ty) (e : Expr F) (st st' : St F) (w : Val F) (t' : Ty)
    (h : evalE ops ext prog (n + 1) (.any t e) st = .ok (.any t' w) st') : t' = t := by
  obtain ⟨w', hv, _⟩ := any_is_concrete ops ext prog n t e st st' _ h
  exact (Val.any.inj hv).1
/-- a type assertion succeeds exactly on an any whose tag equals the asserted type; otherwise it
is the documented conversion panic — never a wrong value -/
theorem assertion_checks_tag (n : Nat) (t : Ty) (e : Expr F) (st st1 st2 : St F) (dynT : Ty) (v : Val F)
    (ht : tick st = some st1) (he : evalE ops ext prog n e st1 = .ok (.any dynT v) st2) :
    evalE ops ext prog (n + 1) (.assert t e) st =
      if dynT.equals t then .ok v st2 else .err (.panic .anyConversion) st2 := by
  simp [evalE, ht, he]

/-- reading an undeclared (not yet initialised) variable and assigning to one are both the
documented "variable has not been set yet" panic -/
theorem unset_variable_is_panic (n : Nat) (name : Str) (st st1 : St F)
    (ht : tick st = some st1) (hg : getVar st1 name = none) :
    evalE ops ext prog (n + 1) (.var name) st = .err (.panic .varNotSet) st1 := by
  simp [evalE, ht, hg]

theorem assign_unset_is_panic (n : Nat) (name : Str) (e : Expr F) (st st1 st2 : St F) (v : Val F)
    (ht : tick st = some st1) (he : evalE ops ext prog n e st1 = .ok v st2) (hu : updateVar st2 name v = none) :
    execS ops ext prog (n + 1) (.assign (.var name) e) st = .err (.panic .varNotSet) st2 := by
  simp [execS, ht, he, hu]

/-- indexing never reaches Go's own bounds check, for any array, string and index value -/
theorem index_never_host_panics (st : St F) (a : Nat) (es : List (Val F)) (i : F)
    (h : heapGet st a = some (.arr es)) :
    ∀ site, indexVal ops st (.arr a) (.num i) ≠ .err (.goPanic site) st := by
  intro site
  unfold indexVal
  simp only [h]
  cases hi : indexList ops es i with
  | error e => cases e <;> simp [idxErr]
  | ok o =>
    cases o with
    | some v => simp
    | none => exact absurd hi (C11.indexList_never_gopanic ops es i)

/-- array repetition with a negative or fractional count is the documented panic -/
theorem bad_repetition_is_panic (st : St F) (a : Nat) (ls : List (Val F)) (n : F)
    (h : heapGet st a = some (.arr ls)) (hbad : ops.eq (ops.ofInt (ops.toInt n)) n = false ∨ ops.toInt n < 0) :
    binArr ops st .asterisk a (.num n) = .err (.panic .badRepetition) st := by
  unfold binArr
  simp only [h]
  rcases hbad with hb | hb
  · simp [hb]
  · by_cases hq : ops.eq (ops.ofInt (ops.toInt n)) n = false <;> simp [hq, hb]

end EvyV.C02
