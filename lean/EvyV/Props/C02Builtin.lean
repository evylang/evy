import EvyV.Props.C02Stmt
import EvyV.Lemmas.Builtins
/-! C02: a built-in of `builtinSig` on arguments its signature accepts returns a value of the result type and leaves
heap and globals well-typed, or ends in a documented outcome: never in the Go panic of an unchecked type assertion. -/
namespace EvyV.TS

variable {F : Type} (ops : NumOps F) (ext : Ext F) (Gg : Env)

abbrev PZ (ts : List Ty) : Store → List (Val F) → Prop :=
  fun S vs => vs.length = ts.length ∧ ∀ (i : Nat) v pt, vs[i]? = some v → ts[i]? = some pt → VT S v pt

def GoodBI (ρ : Option Ty) (S : Store) (st : St F) : Res F (Val F) → Prop
  | .ok v st' => ∃ S', Grows S S' ∧ HeapOk S' st'.heap ∧ GlobalOk S' Gg st'.global ∧ st'.locals = st.locals ∧
      ∀ t, ρ = some t → VT S' v t
  | .err o _ => Doc o

theorem zero_args {S : Store} {tys : List Ty} {vs : List (Val F)} (hl : vs.length = 0) (hz : PZ tys S vs) : vs = [] ∧ tys = [] :=
  ⟨List.length_eq_zero_iff.mp hl, List.length_eq_zero_iff.mp (hz.1 ▸ hl)⟩

section

inductive Args (S : Store) : List (Ty → Bool) → Option (Ty → Bool) → List (Val F) → Prop
  | nil : Args S [] none []
  | rest {p : Ty → Bool} {vs : List (Val F)} : (∀ v ∈ vs, ∃ t, VT S v t ∧ p t = true) → Args S [] (some p) vs
  | cons {p : Ty → Bool} {ps r v vs t} : VT S v t → p t = true → Args S ps r vs → Args S (p :: ps) r (v :: vs)

/-- `paramAt` ignores the result type: `ρ` only completes `ps` and `r` to a `BSig` -/
theorem Args.of {S : Store} {ρ : Option Ty} : ∀ {ps : List (Ty → Bool)} {r : Option (Ty → Bool)} {tys : List Ty} {vs : List (Val F)},
    ps.length ≤ vs.length → (r = none → vs.length = ps.length) → PZ tys S vs →
    (∀ (i : Nat) ta, tys[i]? = some ta → (BSig.mk ps r ρ).paramAt i ta = true) → Args S ps r vs
  | [], none, _, vs, _, hfix, _, _ => by cases List.length_eq_zero_iff.mp (hfix rfl); exact .nil
  | [], some p, tys, vs, _, _, hz, hp => .rest fun v hv => by
      obtain ⟨i, hi⟩ := List.getElem?_of_mem hv
      have hlt : i < tys.length := hz.1 ▸ (List.getElem?_eq_some_iff.mp hi).1
      exact ⟨tys[i], hz.2 i v _ hi (List.getElem?_eq_getElem hlt), hp i _ (List.getElem?_eq_getElem hlt)⟩
  | p :: ps, r, tys, [], hle, _, _, _ => by simp at hle
  | p :: ps, r, [], v :: vs, _, _, hz, _ => nomatch hz.1
  | p :: ps, r, t :: tys, v :: vs, hle, hfix, hz, hp =>
    .cons (hz.2 0 v t rfl rfl) (hp 0 t rfl)
      (Args.of (ρ := ρ) (Nat.le_of_succ_le_succ hle) (fun h => Nat.succ.inj (hfix h)) ⟨Nat.succ.inj hz.1, fun i => hz.2 (i + 1)⟩
        (fun i => hp (i + 1)))

variable {S : Store} {ps : List (Ty → Bool)} {r : Option (Ty → Bool)} {vs : List (Val F)}

theorem Args.num (h : Args S (isNumT :: ps) r vs) : ∃ x vs', vs = .num x :: vs' ∧ Args S ps r vs' := by
  cases h with | cons hv hp h => cases of_decide_eq_true hp; obtain ⟨x, rfl⟩ := hv.num_inv; exact ⟨x, _, rfl, h⟩

theorem Args.str (h : Args S (isStrT :: ps) r vs) : ∃ x vs', vs = .str x :: vs' ∧ Args S ps r vs' := by
  cases h with | cons hv hp h => cases of_decide_eq_true hp; obtain ⟨x, rfl⟩ := hv.str_inv; exact ⟨x, _, rfl, h⟩

theorem Args.any (h : Args S (isAnyT :: ps) r vs) : ∃ t w vs', vs = .any t w :: vs' ∧ VT S w t ∧ Args S ps r vs' := by
  cases h with | cons hv hp h => cases of_decide_eq_true hp; obtain ⟨t, w, rfl, _, hw⟩ := hv.any_inv; exact ⟨t, w, _, rfl, hw, h⟩

theorem Args.map (h : Args S (isMapT :: ps) r vs) : ∃ a s vs', vs = .map a :: vs' ∧ S[a]? = some (.map s) ∧ Args S ps r vs' := by
  cases h with
  | @cons _ _ _ _ _ t hv hp h => cases t <;> cases hp; obtain ⟨a, rfl, ha⟩ := hv.map_inv; exact ⟨a, _, _, rfl, ha, h⟩

theorem Args.arr (h : Args S (isArrT :: ps) r vs) : ∃ a s vs', vs = .arr a :: vs' ∧ S[a]? = some (.arr s) ∧ Args S ps r vs' := by
  cases h with
  | @cons _ _ _ _ _ t hv hp h => cases t <;> cases hp; obtain ⟨a, rfl, ha⟩ := hv.arr_inv; exact ⟨a, _, _, rfl, ha, h⟩

theorem Args.nums : ∀ {vs : List (Val F)}, Args S [] (some isNumT) vs → ∃ ns, numArgs vs = some ns
  | [], _ => ⟨[], rfl⟩
  | v :: vs, .rest h => by
    obtain ⟨t, hv, ht⟩ := h v List.mem_cons_self
    cases of_decide_eq_true ht
    obtain ⟨x, rfl⟩ := hv.num_inv
    obtain ⟨ns, hns⟩ := Args.nums (.rest fun w hw => h w (List.mem_cons_of_mem _ hw))
    exact ⟨x :: ns, by simp [numArgs, hns]⟩

variable {Gg} {ρ : Option Ty} {st : St F}

/-- by `rfl` (the default last argument of `GoodBI.val`, `.unit`, `.setErr`) for a state made from `st` by `emit` and
the like; after a `callExt`, pass `callExt_sameStore` -/
def SameStore (st st' : St F) : Prop := st'.heap = st.heap ∧ st'.global = st.global ∧ st'.locals = st.locals

theorem callExt_sameStore (st : St F) (f : String) (xs d : List (XArg F)) : SameStore st (callExt ext st f xs d).2 := by
  unfold callExt; split <;> exact ⟨rfl, rfl, rfl⟩

theorem GoodBI.val {st' : St F} {v : Val F} {t : Ty} (hk : HeapOk S st.heap) (hgl : GlobalOk S Gg st.global)
    (hv : VT S v t) (h : SameStore st st' := by exact ⟨rfl, rfl, rfl⟩) : GoodBI Gg (some t) S st (.ok v st') :=
  ⟨S, .refl S, h.1 ▸ hk, h.2.1 ▸ hgl, h.2.2, fun _ e => Option.some.inj e ▸ hv⟩

theorem GoodBI.unit {st' : St F} {v : Val F} (hk : HeapOk S st.heap) (hgl : GlobalOk S Gg st.global)
    (h : SameStore st st' := by exact ⟨rfl, rfl, rfl⟩) : GoodBI Gg none S st (.ok v st') :=
  ⟨S, .refl S, h.1 ▸ hk, h.2.1 ▸ hgl, h.2.2, nofun⟩

theorem GoodBI.setErr (hg : GgOk Gg) {st' : St F} {v : Val F} {t : Ty} (hk : HeapOk S st.heap) (hgl : GlobalOk S Gg st.global)
    (hv : VT S v t) (b : Bool) (msg : Str) (h : SameStore st st' := by exact ⟨rfl, rfl, rfl⟩) :
    GoodBI Gg (some t) S st (.ok v (setGlobalErr st' b msg)) :=
  ⟨S, .refl S, h.1 ▸ hk,
    ((h.2.1 ▸ hgl).set _ _ fun t ht => by rw [hg.1 t ht]; exact .bool _).set _ _ fun t ht => by rw [hg.2 t ht]; exact .str _,
    h.2.2, fun _ e => Option.some.inj e ▸ hv⟩

theorem forward_num (hx : ExtOk ext) (hk : HeapOk S st.heap) (hgl : GlobalOk S Gg st.global)
    {f : String} (hf : f ∈ numFns) (xs : List (XArg F)) (d : F) :
    GoodBI Gg (some .num) S st (forward ext st f xs (.num d)) := by
  simp only [forward, callExt]
  cases hc : ext.call f xs with
  | none => exact .val hk hgl (.num _)
  | some r => obtain ⟨v, rfl⟩ := hx.1 f hf _ _ hc; exact .val hk hgl (.num _)

theorem forward_str (hx : ExtOk ext) (hk : HeapOk S st.heap) (hgl : GlobalOk S Gg st.global)
    {f : String} (hf : f ∈ strFns) (xs : List (XArg F)) (d : Str) :
    GoodBI Gg (some .str) S st (forward ext st f xs (.str d)) := by
  simp only [forward, callExt]
  cases hc : ext.call f xs with
  | none => exact .val hk hgl (.str _)
  | some r => obtain ⟨v, rfl⟩ := hx.2.1 f hf _ _ hc; exact .val hk hgl (.str _)

end

/-- the proofs name the result (`⟨.ok v st', rfl, …⟩`): with `_` the match of `callBuiltin` is walked twice -/
def BiOk (name : Str) (sig : BSig) : Prop :=
  ∀ (vs : List (Val F)) (st : St F) (S : Store), Args S sig.params sig.rest vs → HeapOk S st.heap → GlobalOk S Gg st.global →
    ∃ r, callBuiltin ops ext name vs st = some r ∧ GoodBI Gg sig.ret S st r

section
variable {ops} {ext} {Gg}

theorem bi_len : BiOk ops ext Gg (lit "len") ⟨[isAnyT], none, some .num⟩ := fun vs st S ha hk hgl => by
  obtain ⟨t, w, _, rfl, hw, h⟩ := ha.any; cases h
  cases hw with
  | str x => exact ⟨.ok (.num (ops.ofInt x.length)) st, rfl, .val hk hgl (.num _)⟩
  | arr a s hs =>
    obtain ⟨es, he, _⟩ := hk.arr a s hs
    exact ⟨_, by rw [callBuiltin_len_arr, heapGet, he], .val hk hgl (.num _)⟩
  | map a s hs =>
    obtain ⟨m, he, _⟩ := hk.map a s hs
    exact ⟨_, by rw [callBuiltin_len_map, heapGet, he], .val hk hgl (.num _)⟩
  | _ => exact ⟨.err (.panic .badArgs) st, rfl, trivial⟩

theorem bi_typeof : BiOk ops ext Gg (lit "typeof") ⟨[isAnyT], none, some .str⟩ := fun vs st S ha hk hgl => by
  obtain ⟨t, w, _, rfl, hw, h⟩ := ha.any; cases h
  exact ⟨.ok (.str t.show) st, rfl, .val hk hgl (.str _)⟩

theorem bi_has : BiOk ops ext Gg (lit "has") ⟨[isMapT, isStrT], none, some .bool⟩ := fun vs st S ha hk hgl => by
  obtain ⟨a, s, _, rfl, hs, h1⟩ := ha.map; obtain ⟨k, _, rfl, h2⟩ := h1.str; cases h2
  obtain ⟨m, he, _⟩ := hk.map a s hs
  exact ⟨_, by rw [callBuiltin_has, heapGet, he], .val hk hgl (.bool _)⟩

theorem bi_del : BiOk ops ext Gg (lit "del") ⟨[isMapT, isStrT], none, none⟩ := fun vs st S ha hk hgl => by
  obtain ⟨a, s, _, rfl, hs, h1⟩ := ha.map; obtain ⟨k, _, rfl, h2⟩ := h1.str; cases h2
  obtain ⟨m, he, hm⟩ := hk.map a s hs
  refine ⟨.ok .none (heapSet st a (.map (m.delete k))), by rw [callBuiltin_del, heapGet, he], S, .refl S, ?_, hgl, rfl, nofun⟩
  refine hk.set hs ⟨_, rfl, ?_⟩
  rw [MapVal.delete_pairs]
  exact fun p hp => hm p (List.mem_filter.mp hp).1

theorem bi_str2bool (hg : GgOk Gg) : BiOk ops ext Gg (lit "str2bool") ⟨[isStrT], none, some .bool⟩ := fun vs st S ha hk hgl => by
  obtain ⟨x, _, rfl, h⟩ := ha.str; cases h
  rw [callBuiltin_str2bool]
  cases parseBool x with
  | some b => exact ⟨_, rfl, .setErr hg hk hgl (.bool _) _ _⟩
  | none => exact ⟨_, rfl, .setErr hg hk hgl (.bool _) _ _ (callExt_sameStore ext ..)⟩

theorem bi_sprint : BiOk ops ext Gg (lit "sprint") ⟨[], some (fun _ => true), some .str⟩ := fun vs st S _ hk hgl => by
  rw [callBuiltin_sprint]
  cases joinVals ops st vs [' '] with
  | none => exact ⟨_, rfl, trivial⟩
  | some s => exact ⟨_, rfl, .val hk hgl (.str _)⟩

theorem bi_join : BiOk ops ext Gg (lit "join") ⟨[isArrT, isStrT], none, some .str⟩ := fun vs st S ha hk hgl => by
  obtain ⟨a, s, _, rfl, hs, h1⟩ := ha.arr; obtain ⟨k, _, rfl, h2⟩ := h1.str; cases h2
  obtain ⟨es, he, _⟩ := hk.arr a s hs
  simp only [callBuiltin_join, heapGet, he]
  cases joinVals ops st es k with
  | none => exact ⟨_, rfl, trivial⟩
  | some s => exact ⟨_, rfl, .val hk hgl (.str _)⟩

theorem bi_startswith : BiOk ops ext Gg (lit "startswith") ⟨[isStrT, isStrT], none, some .bool⟩ := fun vs st S ha hk hgl => by
  obtain ⟨x, _, rfl, h1⟩ := ha.str; obtain ⟨y, _, rfl, h2⟩ := h1.str; cases h2
  exact ⟨.ok (.bool (isPrefix y x)) st, rfl, .val hk hgl (.bool _)⟩

theorem bi_endswith : BiOk ops ext Gg (lit "endswith") ⟨[isStrT, isStrT], none, some .bool⟩ := fun vs st S ha hk hgl => by
  obtain ⟨x, _, rfl, h1⟩ := ha.str; obtain ⟨y, _, rfl, h2⟩ := h1.str; cases h2
  exact ⟨.ok (.bool (isPrefix y.reverse x.reverse)) st, rfl, .val hk hgl (.bool _)⟩

theorem bi_index : BiOk ops ext Gg (lit "index") ⟨[isStrT, isStrT], none, some .num⟩ := fun vs st S ha hk hgl => by
  obtain ⟨x, _, rfl, h1⟩ := ha.str; obtain ⟨y, _, rfl, h2⟩ := h1.str; cases h2
  exact ⟨.ok (.num (ops.ofInt (strIndex x y 0))) st, rfl, .val hk hgl (.num _)⟩

theorem bi_exit : BiOk ops ext Gg (lit "exit") ⟨[isNumT], none, none⟩ := fun vs st S ha _ _ => by
  obtain ⟨x, _, rfl, h⟩ := ha.num; cases h
  exact ⟨.err (.exit (ops.toInt x)) st, rfl, trivial⟩

theorem bi_panic : BiOk ops ext Gg (lit "panic") ⟨[isStrT], none, none⟩ := fun vs st S ha _ _ => by
  obtain ⟨x, _, rfl, h⟩ := ha.str; cases h
  exact ⟨.err (.panic .user) st, rfl, trivial⟩

theorem bi_sleep : BiOk ops ext Gg (lit "sleep") ⟨[isNumT], none, none⟩ := fun vs st S ha hk hgl => by
  obtain ⟨x, _, rfl, h⟩ := ha.num; cases h
  exact ⟨.ok .none (emit st (.sleep (ops.toInt (ops.mul x (ops.ofInt 1000000000))))), rfl, .unit hk hgl⟩

theorem bi_cls : BiOk ops ext Gg (lit "cls") ⟨[], none, none⟩ :=
  fun vs st S _ hk hgl => ⟨.ok .none (emit st .cls), rfl, .unit hk hgl⟩

theorem bi_read : BiOk ops ext Gg (lit "read") ⟨[], none, some .str⟩ := fun vs st S _ hk hgl => by
  rw [callBuiltin_read]
  cases st.input <;> exact ⟨_, rfl, .val hk hgl (.str _)⟩

theorem bi_math1 (hx : ExtOk ext) {name : Str} (hn : name = lit "abs" ∨ name = lit "floor" ∨ name = lit "ceil" ∨ name = lit "round" ∨
    name = lit "log" ∨ name = lit "sqrt" ∨ name = lit "sin" ∨ name = lit "cos") : BiOk ops ext Gg name ⟨[isNumT], none, some .num⟩ :=
  fun vs st S ha hk hgl => by
    obtain ⟨x, _, rfl, h⟩ := ha.num; cases h
    obtain ⟨f, hf, e⟩ : ∃ f ∈ numFns, callBuiltin ops ext name [.num x] st = some (forward ext st f [.num x] (.num ops.zero)) := by
      rcases hn with rfl | rfl | rfl | rfl | rfl | rfl | rfl | rfl <;> exact ⟨_, by decide, rfl⟩
    exact ⟨_, e, forward_num ext hx hk hgl hf _ _⟩

theorem bi_math2 (hx : ExtOk ext) {name : Str} (hn : name = lit "min" ∨ name = lit "max" ∨ name = lit "pow" ∨ name = lit "atan2") :
    BiOk ops ext Gg name ⟨[isNumT, isNumT], none, some .num⟩ := fun vs st S ha hk hgl => by
  obtain ⟨x, _, rfl, h1⟩ := ha.num; obtain ⟨y, _, rfl, h2⟩ := h1.num; cases h2
  obtain ⟨f, hf, e⟩ : ∃ f ∈ numFns, callBuiltin ops ext name [.num x, .num y] st = some (forward ext st f [.num x, .num y] (.num ops.zero)) := by
    rcases hn with rfl | rfl | rfl | rfl <;> exact ⟨_, by decide, rfl⟩
  exact ⟨_, e, forward_num ext hx hk hgl hf _ _⟩

theorem bi_case (hx : ExtOk ext) {name : Str} (hn : name = lit "upper" ∨ name = lit "lower") :
    BiOk ops ext Gg name ⟨[isStrT], none, some .str⟩ := fun vs st S ha hk hgl => by
  obtain ⟨x, _, rfl, h⟩ := ha.str; cases h
  obtain ⟨f, hf, e⟩ : ∃ f ∈ strFns, callBuiltin ops ext name [.str x] st = some (forward ext st f [.str x] (.str [])) := by
    rcases hn with rfl | rfl <;> exact ⟨_, by decide, rfl⟩
  exact ⟨_, e, forward_str ext hx hk hgl hf _ _⟩

theorem bi_trim (hx : ExtOk ext) : BiOk ops ext Gg (lit "trim") ⟨[isStrT, isStrT], none, some .str⟩ := fun vs st S ha hk hgl => by
  obtain ⟨x, _, rfl, h1⟩ := ha.str; obtain ⟨y, _, rfl, h2⟩ := h1.str; cases h2
  exact ⟨forward ext st "trim" [.str x, .str y] (.str []), rfl, forward_str ext hx hk hgl (by decide) _ _⟩

theorem bi_strReplace : BiOk ops ext Gg (lit "replace") ⟨[isStrT, isStrT, isStrT], none, some .str⟩ := fun vs st S ha hk hgl => by
  obtain ⟨x, _, rfl, h1⟩ := ha.str; obtain ⟨y, _, rfl, h2⟩ := h1.str; obtain ⟨z, _, rfl, h3⟩ := h2.str; cases h3
  exact ⟨.ok (.str (strReplace x y z)) st, rfl, .val hk hgl (.str _)⟩

theorem bi_str2num (hx : ExtOk ext) (hg : GgOk Gg) : BiOk ops ext Gg (lit "str2num") ⟨[isStrT], none, some .num⟩ :=
  fun vs st S ha hk hgl => by
    obtain ⟨x, _, rfl, h⟩ := ha.str; cases h
    rw [callBuiltin_str2num]
    have h1 := callExt_sameStore ext st "parsefloat" [.str x] [.num ops.zero, .bool true]
    unfold callExt at h1 ⊢
    cases hc : ext.call "parsefloat" [XArg.str x] with
    | none => rw [hc] at h1; exact ⟨_, rfl, .setErr hg hk hgl (.num _) _ _ h1⟩
    | some r =>
      obtain ⟨n, b, rfl⟩ := hx.2.2.1 _ _ hc
      cases b with
      | true => exact ⟨_, rfl, .setErr hg hk hgl (.num _) _ _⟩
      | false => exact ⟨_, rfl, .setErr hg hk hgl (.num _) _ _ (callExt_sameStore ext ..)⟩

theorem bi_gfx2 {name : Str} (hn : name = lit "move" ∨ name = lit "line" ∨ name = lit "rect") :
    BiOk ops ext Gg name ⟨[isNumT, isNumT], none, none⟩ := fun vs st S ha hk hgl => by
  obtain ⟨x, _, rfl, h1⟩ := ha.num; obtain ⟨y, _, rfl, h2⟩ := h1.num; cases h2
  obtain ⟨g, e⟩ : ∃ g, callBuiltin ops ext name [.num x, .num y] st = some (.ok .none (emit st (.gfx g [.num x, .num y]))) := by
    rcases hn with rfl | rfl | rfl <;> exact ⟨_, rfl⟩
  exact ⟨_, e, .unit hk hgl⟩

theorem bi_gfx1 {name : Str} (hn : name = lit "circle" ∨ name = lit "width") : BiOk ops ext Gg name ⟨[isNumT], none, none⟩ :=
  fun vs st S ha hk hgl => by
    obtain ⟨x, _, rfl, h⟩ := ha.num; cases h
    obtain ⟨g, e⟩ : ∃ g, callBuiltin ops ext name [.num x] st = some (.ok .none (emit st (.gfx g [.num x]))) := by
      rcases hn with rfl | rfl <;> exact ⟨_, rfl⟩
    exact ⟨_, e, .unit hk hgl⟩

theorem bi_gfxStr {name : Str} (hn : name = lit "color" ∨ name = lit "colour" ∨ name = lit "stroke" ∨ name = lit "fill" ∨
    name = lit "linecap" ∨ name = lit "text") : BiOk ops ext Gg name ⟨[isStrT], none, none⟩ := fun vs st S ha hk hgl => by
  obtain ⟨x, _, rfl, h⟩ := ha.str; cases h
  obtain ⟨g, e⟩ : ∃ g, callBuiltin ops ext name [.str x] st = some (.ok .none (emit st (.gfx g [.str x]))) := by
    rcases hn with rfl | rfl | rfl | rfl | rfl | rfl <;> exact ⟨_, rfl⟩
  exact ⟨_, e, .unit hk hgl⟩

theorem bi_clear : BiOk ops ext Gg (lit "clear") ⟨[], some isStrT, none⟩ := fun vs st S ha hk hgl => by
  rw [callBuiltin_clear]
  cases ha with | rest h =>
  match vs, h with
  | [], _ => exact ⟨_, rfl, .unit hk hgl⟩
  | [v], h =>
    obtain ⟨t, hv, ht⟩ := h v List.mem_cons_self
    cases of_decide_eq_true ht; obtain ⟨x, rfl⟩ := hv.str_inv
    exact ⟨_, rfl, .unit hk hgl⟩
  | v :: _ :: _, _ => cases v <;> exact ⟨.err (.panic .badArgs) st, rfl, trivial⟩

theorem bi_grid : BiOk ops ext Gg (lit "grid") ⟨[], none, none⟩ := fun vs st S _ hk hgl =>
  ⟨.ok .none (emit st (.gfx "gridn" [.num (ops.ofInt 10), .str (lit "hsl(0deg 100% 0% / 50%)")])), rfl, .unit hk hgl⟩

theorem bi_gridn : BiOk ops ext Gg (lit "gridn") ⟨[isNumT, isStrT], none, none⟩ := fun vs st S ha hk hgl => by
  obtain ⟨x, _, rfl, h1⟩ := ha.num; obtain ⟨y, _, rfl, h2⟩ := h1.str; cases h2
  rw [callBuiltin_gridn]
  split
  · exact ⟨_, rfl, trivial⟩
  · exact ⟨_, rfl, .unit hk hgl⟩

theorem bi_dash : BiOk ops ext Gg (lit "dash") ⟨[], some isNumT, none⟩ := fun vs st S ha hk hgl => by
  obtain ⟨ns, hns⟩ := ha.nums
  exact ⟨_, by rw [callBuiltin_dash, hns], .unit hk hgl⟩

theorem bi_ellipse : BiOk ops ext Gg (lit "ellipse") ⟨[], some isNumT, none⟩ := fun vs st S ha hk hgl => by
  obtain ⟨ns, hns⟩ := ha.nums
  simp only [callBuiltin_ellipse, hns]
  split
  · exact ⟨_, rfl, trivial⟩
  · split
    · exact ⟨_, rfl, .unit hk hgl⟩
    · exact ⟨_, rfl, trivial⟩

theorem bi_hsl (hx : ExtOk ext) : BiOk ops ext Gg (lit "hsl") ⟨[], some isNumT, some .str⟩ := fun vs st S ha hk hgl => by
  obtain ⟨ns, hns⟩ := ha.nums
  simp only [callBuiltin_hsl, hns]
  split
  · exact ⟨_, rfl, trivial⟩
  · split
    · exact ⟨_, rfl, forward_str ext hx hk hgl (by decide) _ _⟩
    · exact ⟨_, rfl, trivial⟩

theorem verts_typed {S : Store} {st : St F} (hk : HeapOk S st.heap) : ∀ (vs : List (Val F)), (∀ v ∈ vs, ∃ t, VT S v t ∧ decide (t = .arr .num) = true) →
    (∃ l, callBuiltin.verts st vs = .ok l) ∨ callBuiltin.verts st vs = .error (.panic .badArgs)
  | [], _ => .inl ⟨[], rfl⟩
  | v :: rest, h => by
    obtain ⟨t, hv, ht⟩ := h v List.mem_cons_self
    cases of_decide_eq_true ht
    obtain ⟨a, rfl, ha⟩ := hv.arr_inv
    obtain ⟨es, he, hes⟩ := hk.arr a .num ha
    have ihr := verts_typed hk rest fun w hw => h w (List.mem_cons_of_mem _ hw)
    simp only [callBuiltin.verts, heapGet, he]
    match es, hes with
    | [], _ => right; simp
    | [x], _ => right; simp
    | [x, y], hes =>
      obtain ⟨x', rfl⟩ := (hes x (by simp)).num_inv
      obtain ⟨y', rfl⟩ := (hes y (by simp)).num_inv
      rcases ihr with ⟨l, hl⟩ | hl
      · left; exact ⟨x' :: y' :: l, by simp [hl, Except.map]⟩
      · right; simp [hl, Except.map]
    | _ :: _ :: _ :: _, _ => right; simp

theorem bi_poly : BiOk ops ext Gg (lit "poly") ⟨[], some (fun t => decide (t = .arr .num)), none⟩ := fun vs st S ha hk hgl => by
  rw [callBuiltin_poly]
  cases ha with | rest h =>
  rcases verts_typed hk vs h with ⟨l, hl⟩ | hl <;> rw [hl]
  · exact ⟨_, rfl, .unit hk hgl⟩
  · exact ⟨_, rfl, trivial⟩

theorem fontProps_typed {S : Store} (m : MapVal (Val F)) (hm : ∀ p ∈ m.pairs, VT S p.2 .any) :
    (∃ props, fontProps ops m = .ok props) ∨ fontProps ops m = .error (.panic .badArgs) := by
  simp only [fontProps]
  split
  · rename_i h
    obtain ⟨p, hp, hpp⟩ := List.any_eq_true.mp h
    obtain ⟨t, w, hw, _, _⟩ := (hm p hp).any_inv
    simp [hw] at hpp
  · split
    · exact .inr rfl
    · exact .inl ⟨_, rfl⟩

theorem bi_font : BiOk ops ext Gg (lit "font") ⟨[fun t => decide (t = .map .any)], none, none⟩ := fun vs st S ha hk hgl => by
  cases ha with | cons hv hp h =>
  cases h; cases of_decide_eq_true hp
  obtain ⟨a, rfl, ha⟩ := hv.map_inv
  obtain ⟨m, he, hm⟩ := hk.map a .any ha
  simp only [callBuiltin_font, heapGet, he]
  rcases fontProps_typed m hm with ⟨props, hp⟩ | hp <;> rw [hp]
  · exact ⟨_, rfl, .unit hk hgl⟩
  · exact ⟨_, rfl, trivial⟩

theorem bi_printf (p : Bool) : BiOk ops ext Gg (lit (if p then "printf" else "sprintf"))
    ⟨[isAnyT], some (fun _ => true), if p then none else some .str⟩ := fun vs st S ha hk hgl => by
  obtain ⟨t, w, vs, rfl, hw, _⟩ := ha.any
  cases hw with
  | str f =>
    rw [callBuiltin_printf]
    cases unwrapAll ops st vs with
    | none => exact ⟨_, rfl, trivial⟩
    | some xs =>
      cases p
      · exact ⟨_, rfl, .val hk hgl (.str _) (callExt_sameStore ext ..)⟩
      · exact ⟨_, rfl, .unit hk hgl (callExt_sameStore ext ..)⟩
  | _ => cases p <;> exact ⟨.err (.panic .badArgs) st, rfl, trivial⟩

theorem bi_repr : BiOk ops ext Gg (lit "repr") ⟨[], some (fun _ => true), some .str⟩ := fun vs st S _ hk hgl => by
  rw [callBuiltin_repr]
  cases reprList ops ext st.heap (auxFuel st) vs with
  | none => exact ⟨_, rfl, trivial⟩
  | some r => exact ⟨_, rfl, .val hk hgl (.str _)⟩

theorem bi_strSplit : BiOk ops ext Gg (lit "split") ⟨[isStrT, isStrT], none, some (.arr .str)⟩ := fun vs st S ha hk hgl => by
  obtain ⟨x, _, rfl, h1⟩ := ha.str; obtain ⟨y, _, rfl, h2⟩ := h1.str; cases h2
  obtain ⟨S', g, hk', vt, hl, hg⟩ := Good.alloc_arr (es := (strSplit x y).map Val.str) hk (s := .str) rfl fun v hv => by
    obtain ⟨z, _, rfl⟩ := List.mem_map.mp hv; exact .str z
  exact ⟨_, rfl, S', g, hk', hg ▸ hgl.mono g, hl, fun _ e => Option.some.inj e ▸ vt⟩

theorem rand_ok (hx : ExtOk ext) {S : Store} {st : St F} (hk : HeapOk S st.heap) (hgl : GlobalOk S Gg st.global) (q : List (XArg F)) :
    GoodBI Gg (some .num) S st (
      let (r, st') := callExt ext { st with randLog := q } "rand" q [.num ops.zero]
      match r with
      | [.num v] => .ok (.num v) st'
      | _ => .err (.internal "bad oracle answer") st') := by
  unfold callExt
  cases hc : ext.call "rand" q with
  | none => exact .val hk hgl (.num _)
  | some r => obtain ⟨w, rfl⟩ := hx.1 "rand" (by decide) _ _ hc; exact .val hk hgl (.num _)

theorem bi_rand (hx : ExtOk ext) : BiOk ops ext Gg (lit "rand") ⟨[isNumT], none, some .num⟩ := fun vs st S ha hk hgl => by
  obtain ⟨u, _, rfl, h⟩ := ha.num; cases h
  rw [callBuiltin_rand]
  split
  · exact ⟨_, rfl, trivial⟩
  · exact ⟨_, rfl, rand_ok hx hk hgl _⟩

theorem bi_rand1 (hx : ExtOk ext) : BiOk ops ext Gg (lit "rand1") ⟨[], none, some .num⟩ :=
  fun _ _ _ _ hk hgl => ⟨_, callBuiltin_rand1 .., rand_ok hx hk hgl _⟩

theorem row {c : Prop} [Decidable c] {sig x : BSig} {e : Option BSig} {P : BSig → Prop}
    (h : (if c then some sig else e) = some x) (h1 : c → P sig) (h2 : e = some x → P x) : P x := by
  split at h
  · exact Option.some.inj h ▸ h1 ‹c›
  · exact h2 h

theorem builtin_table (hx : ExtOk ext) (hg : GgOk Gg) {name : Str} {sig : BSig} (hs : builtinSig name = some sig) :
    BiOk ops ext Gg name sig := by
  unfold builtinSig at hs
  refine row hs (fun hn => hn ▸ bi_len) fun hs => ?_
  refine row hs (fun hn => hn ▸ bi_typeof) fun hs => ?_
  refine row hs (fun hn => hn ▸ bi_has) fun hs => ?_
  refine row hs (fun hn => hn ▸ bi_del) fun hs => ?_
  refine row hs (fun hn => hn ▸ bi_str2bool hg) fun hs => ?_
  refine row hs (fun hn => hn ▸ bi_sprint) fun hs => ?_
  refine row hs (fun hn => hn ▸ bi_join) fun hs => ?_
  refine row hs (fun hn => hn ▸ bi_startswith) fun hs => ?_
  refine row hs (fun hn => hn ▸ bi_endswith) fun hs => ?_
  refine row hs (fun hn => hn ▸ bi_index) fun hs => ?_
  refine row hs (fun hn => hn ▸ bi_exit) fun hs => ?_
  refine row hs (fun hn => hn ▸ bi_panic) fun hs => ?_
  refine row hs (fun hn => hn ▸ bi_sleep) fun hs => ?_
  refine row hs (fun hn => hn ▸ bi_cls) fun hs => ?_
  refine row hs (fun hn => hn ▸ bi_read) fun hs => ?_
  refine row hs (bi_math1 hx) fun hs => ?_
  refine row hs (bi_math2 hx) fun hs => ?_
  refine row hs (bi_case hx) fun hs => ?_
  refine row hs (fun hn => hn ▸ bi_trim hx) fun hs => ?_
  refine row hs (fun hn => hn ▸ bi_strReplace) fun hs => ?_
  refine row hs (fun hn => hn ▸ bi_str2num hx hg) fun hs => ?_
  refine row hs bi_gfx2 fun hs => ?_
  refine row hs bi_gfx1 fun hs => ?_
  refine row hs bi_gfxStr fun hs => ?_
  refine row hs (fun hn => hn ▸ bi_clear) fun hs => ?_
  refine row hs (fun hn => hn ▸ bi_grid) fun hs => ?_
  refine row hs (fun hn => hn ▸ bi_gridn) fun hs => ?_
  refine row hs (fun hn => hn.elim (· ▸ bi_dash) (· ▸ bi_ellipse)) fun hs => ?_
  refine row hs (fun hn => hn ▸ bi_hsl hx) fun hs => ?_
  refine row hs (fun hn => hn ▸ bi_poly) fun hs => ?_
  refine row hs (fun hn => hn ▸ bi_font) fun hs => ?_
  refine row hs (fun hn => hn ▸ bi_printf true) fun hs => ?_
  refine row hs (fun hn => hn ▸ bi_printf false) fun hs => ?_
  refine row hs (fun hn => hn ▸ bi_repr) fun hs => ?_
  refine row hs (fun hn => hn ▸ bi_strSplit) fun hs => ?_
  refine row hs (fun hn => hn ▸ bi_rand hx) fun hs => ?_
  exact row hs (fun hn => hn ▸ bi_rand1 hx) nofun

end

theorem builtinSig_ne_test {name : Str} {sig : BSig} (hs : builtinSig name = some sig) : String.ofList name ≠ "test" := by
  intro e
  have hn : name = lit "test" := by rw [lit, ← e, String.toList_ofList]
  have : builtinSig (lit "test") = none := by decide +kernel
  rw [hn, this] at hs
  cases hs

/-- **the built-ins of the typed fragment on well-typed arguments** -/
theorem builtin_ok (hx : ExtOk ext) (hg : GgOk Gg) (name : Str) (sig : BSig) (tys : List Ty) (vs : List (Val F)) (st : St F) (S : Store)
    (hs : builtinSig name = some sig) (hle : sig.params.length ≤ vs.length) (hfix : sig.rest = none → vs.length = sig.params.length)
    (hz : PZ tys S vs) (hpred : ∀ (i : Nat) ta, tys[i]? = some ta → sig.paramAt i ta = true)
    (hk : HeapOk S st.heap) (hgl : GlobalOk S Gg st.global) :
    String.ofList name ≠ "test" ∧ ∃ r, callBuiltin ops ext name vs st = some r ∧ GoodBI Gg sig.ret S st r :=
  ⟨builtinSig_ne_test hs, builtin_table hx hg hs vs st S (.of hle hfix hz hpred) hk hgl⟩

-- frozen faces; the table rows are `bi_strReplace` / `bi_strSplit`
theorem bi_replace (hx : ExtOk ext) (hg : GgOk Gg) (tys : List Ty) (vs : List (Val F)) (st : St F) (S : Store)
    (hle : (⟨[isStrT, isStrT, isStrT], none, some .str⟩ : BSig).params.length ≤ vs.length)
    (hfix : (⟨[isStrT, isStrT, isStrT], none, some .str⟩ : BSig).rest = none → vs.length = (⟨[isStrT, isStrT, isStrT], none, some .str⟩ : BSig).params.length)
    (hz : PZ tys S vs) (hpred : ∀ (i : Nat) ta, tys[i]? = some ta → (⟨[isStrT, isStrT, isStrT], none, some .str⟩ : BSig).paramAt i ta = true)
    (hk : HeapOk S st.heap) (hgl : GlobalOk S Gg st.global) :
    ∃ r, callBuiltin ops ext (lit "replace") vs st = some r ∧ GoodBI Gg (⟨[isStrT, isStrT, isStrT], none, some .str⟩ : BSig).ret S st r :=
  bi_strReplace vs st S (.of hle hfix hz hpred) hk hgl

theorem bi_split (hx : ExtOk ext) (hg : GgOk Gg) (tys : List Ty) (vs : List (Val F)) (st : St F) (S : Store)
    (hle : (⟨[isStrT, isStrT], none, some (.arr .str)⟩ : BSig).params.length ≤ vs.length)
    (hfix : (⟨[isStrT, isStrT], none, some (.arr .str)⟩ : BSig).rest = none → vs.length = (⟨[isStrT, isStrT], none, some (.arr .str)⟩ : BSig).params.length)
    (hz : PZ tys S vs) (hpred : ∀ (i : Nat) ta, tys[i]? = some ta → (⟨[isStrT, isStrT], none, some (.arr .str)⟩ : BSig).paramAt i ta = true)
    (hk : HeapOk S st.heap) (hgl : GlobalOk S Gg st.global) :
    ∃ r, callBuiltin ops ext (lit "split") vs st = some r ∧ GoodBI Gg (⟨[isStrT, isStrT], none, some (.arr .str)⟩ : BSig).ret S st r :=
  bi_strSplit vs st S (.of hle hfix hz hpred) hk hgl

/-- `test` on anys: passes, fails (the documented failed-test outcome) or
rejects its arguments -/
theorem bi_test {S : Store} (vs : List (Val F)) (st : St F) (hv : ∀ v ∈ vs, VT S v .any) :
    ∃ r, callBuiltin ops ext (lit "test") vs st = some r ∧
      (r = .ok .none st ∨ r = .err (.internal "ErrTest") st ∨ r = .err (.panic .badArgs) st) := by
  rw [callBuiltin_test]
  match vs, hv with
  | [], _ => simp [badArgs]
  | [v], hv =>
    obtain ⟨t, w, rfl, _, hw⟩ := (hv v List.mem_cons_self).any_inv
    cases hw with
    | bool b => cases b <;> simp
    | _ => simp [badArgs]
  | v1 :: v2 :: [], _ => simp only; split <;> simp
  | v1 :: v2 :: r0 :: rest', hv =>
    obtain ⟨t, w, rfl, _, hw⟩ := (hv r0 (by simp)).any_inv
    cases hw with
    | str _ => simp only; split <;> simp    -- a message as third argument
    | _ => simp [badArgs]

end EvyV.TS
