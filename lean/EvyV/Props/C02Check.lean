import EvyV.Model.Check
import EvyV.Props.C02Full
/-! C02: the checker of Model/Check.lean is sound for the typing judgements of Spec/WellTyped.lean, so a program that
`checkProg` accepts (the harness runs it on the serialised AST, with the signatures and global types of the real
parser) falls under `program_never_goes_wrong`. -/
namespace EvyV.TS

variable {F : Type} (Φ : FEnv) (G : Env)

theorem zip_all {α β : Type} (as : List α) (bs : List β) (p : α × β → Bool) (h : (as.zip bs).all p = true) :
    ∀ (i : Nat) a b, as[i]? = some a → bs[i]? = some b → p (a, b) = true := by
  intro i a b ha hb
  have hm : (a, b) ∈ as.zip bs := by
    apply List.mem_of_getElem? (i := i)
    rw [List.getElem?_zip_eq_some]; exact ⟨ha, hb⟩
  exact List.all_eq_true.mp h _ hm

theorem findSome_mem {α β : Type} (l : List α) (f : α → Option β) (b : β) (h : l.findSome? f = some b) : ∃ a ∈ l, f a = some b :=
  List.exists_of_findSome?_eq_some h

theorem inferAll_spec (f : Expr F → Option Ty) : ∀ (es : List (Expr F)) (ts : List Ty), inferAll f es = some ts →
    es.length = ts.length ∧ ∀ (i : Nat) a ta, es[i]? = some a → ts[i]? = some ta → f a = some ta := by
  intro es
  induction es with
  | nil => intro ts h; simp [inferAll] at h; subst h; exact ⟨rfl, by intro i a ta ha; simp at ha⟩
  | cons e rest ih =>
    intro ts h
    simp only [inferAll] at h
    split at h
    · rename_i t ts' he hr
      simp at h; subst h
      obtain ⟨hl, hp⟩ := ih ts' hr
      refine ⟨by simp [hl], ?_⟩
      intro i a ta ha hta
      cases i with
      | zero => simp at ha hta; subst ha hta; exact he
      | succ j => exact hp j a ta (by simpa using ha) (by simpa using hta)
    · cases h

theorem predsOk_spec (sig : BSig) : ∀ (ts : List Ty) (k : Nat), predsOk sig k ts = true →
    ∀ (i : Nat) ta, ts[i]? = some ta → sig.paramAt (k + i) ta = true := by
  intro ts
  induction ts with
  | nil => intro k _ i ta h; simp at h
  | cons t rest ih =>
    intro k h i ta hta
    simp only [predsOk, Bool.and_eq_true] at h
    cases i with
    | zero => simp at hta; subst hta; simpa using h.1
    | succ j =>
      have := ih (k + 1) h.2 j ta (by simpa using hta)
      have e : k + (j + 1) = k + 1 + j := by omega
      rw [e]; exact this

theorem arityOk_spec {sig : BSig} {n : Nat} (h : arityOk sig n = true) :
    sig.params.length ≤ n ∧ (sig.rest = none → n = sig.params.length) := by
  simp only [arityOk, Bool.and_eq_true, Bool.or_eq_true, decide_eq_true_eq] at h
  refine ⟨h.1, fun hr => ?_⟩
  rcases h.2 with h2 | h2
  · rw [hr] at h2; simp at h2
  · exact h2

theorem optAll_spec {α : Type} {o : Option α} {p : α → Bool} (h : optAll o p = true) : ∀ x, o = some x → p x = true := by
  intro x hx; subst hx; simpa [optAll] using h

theorem lvOk_spec {lv : Option Str} (h : ¬ (!lvOk lv) = true) : ∀ n, lv = some n → n ≠ underscore := by
  rintro n rfl; simpa [lvOk] using h

theorem of_guard {α : Type} {c : Prop} [Decidable c] {a b : α} (h : (if c then some a else none) = some b) : c ∧ a = b := by
  simpa using h

variable {Φ G} in
theorem Typed.of_accept {e : Expr F} {ex : Option Ty} {T t : Ty} (hT : Typed Φ G e T) (h : accept ex T = some t) :
    Typed Φ G e t ∧ ∀ x, ex = some x → x = t := by
  cases ex with
  | none => cases h; exact ⟨hT, nofun⟩
  | some y => obtain ⟨rfl, rfl⟩ := of_guard h; exact ⟨hT, fun x hx => (Option.some.inj hx).symm⟩

variable {Φ G} in
theorem binTy_typed {op : Op} {t res : Ty} {l r : Expr F} (h : binTy op t = some res)
    (hl : Typed Φ G l t) (hr : Typed Φ G r t) : Typed Φ G (.binary op l r) res := by
  unfold binTy at h
  split at h
  · next he => cases h; exact .eq op l r t he hl hr
  · split at h
    · split at h
      · next ha => cases h; exact .arith op l r ha hl hr
      · obtain ⟨hc, rfl⟩ := of_guard h; exact .cmpNum op l r hc hl hr
    · split at h
      · next hp => cases h; subst hp; exact .concat l r hl hr
      · obtain ⟨hc, rfl⟩ := of_guard h; exact .cmpStr op l r hc hl hr
    · obtain ⟨hc, rfl⟩ := of_guard h; exact .logic op l r hc hl hr
    · next s => obtain ⟨rfl, rfl⟩ := of_guard h; exact .arrCat l r s hl hr
    · cases h

/-- **the expression checker is sound** -/
theorem tc_sound : ∀ (n : Nat) (e : Expr F) (ex : Option Ty) (t : Ty),
    tc Φ G n e ex = some t → Typed Φ G e t ∧ ∀ x, ex = some x → x = t := by
  intro n
  induction n with
  | zero => intro e ex t h; simp [tc] at h
  | succ n ih =>
    intro e ex t
    -- the three ways `tc` calls itself: inferring, checking against a type, and comparing the result with it
    -- (`chk` is `tc_check` below, at the smaller budget)
    have inf : ∀ {e : Expr F} {t : Ty}, tc Φ G n e none = some t → Typed Φ G e t := fun h => (ih _ _ _ h).1
    have exp : ∀ {e : Expr F} {t t' : Ty}, tc Φ G n e (some t) = some t' → Typed Φ G e t := fun h => by
      obtain ⟨hty, hx⟩ := ih _ _ _ h
      rw [hx _ rfl]; exact hty
    have chk : ∀ {e : Expr F} {t : Ty}, (tc Φ G n e (some t) == some t) = true → Typed Φ G e t :=
      fun h => exp (eq_of_beq h)
    -- a goal per path of `tc`, the rejecting ones last
    generalize hk : n + 1 = k
    fun_cases tc Φ G k e ex <;> intro h
    case case1 => cases hk
    all_goals obtain rfl := (Nat.succ.inj hk).symm
    case case2 v => exact (Typed.num v).of_accept h
    case case3 v => exact (Typed.str v).of_accept h
    case case4 v => exact (Typed.bool v).of_accept h
    case case5 nm _ hg => exact (Typed.var nm _ hg).of_accept h
    case case8 inner hne _ h1 => exact (Typed.any _ inner hne (exp h1)).of_accept h
    case case10 elems s hc sq hs =>
      cases h
      simp only [Bool.and_eq_true, List.all_eq_true] at hc
      refine ⟨.arr elems s hc.1 fun e he => chk (hc.2 e he), ?_⟩
      rintro x rfl
      cases x <;> simp [sq] at hs
      rw [hs]
    case case13 pairs s hc sq hs =>
      cases h
      simp only [Bool.and_eq_true, List.all_eq_true] at hc
      refine ⟨.mapLit pairs s hc.1 fun p hp => chk (hc.2 p hp), ?_⟩
      rintro x rfl
      cases x <;> simp [sq] at hs
      rw [hs]
    case case16 inner => exact ⟨.group inner t (ih _ _ _ h).1, (ih _ _ _ h).2⟩
    case case17 inner _ h1 => exact (Typed.neg inner (exp h1)).of_accept h
    case case19 inner _ h1 _ => exact (Typed.not inner (exp h1)).of_accept h
    case case22 op l r s hrep hc =>
      simp only [Option.ite_none_right_eq_some] at hrep
      obtain ⟨rfl, hrep⟩ := hrep
      exact (Typed.arrRep l r s (inf hrep) (chk hc)).of_accept h
    case case24 op l r _ t0 _ hc res hb _ =>
      simp only [Bool.and_eq_true] at hc
      exact (binTy_typed hb (chk hc.1) (chk hc.2)).of_accept h
    case case28 l i s hl hi => exact (Typed.idxArr l i _ (inf hl) (chk hi)).of_accept h
    case case30 l i hl hi => exact (Typed.idxStr l i (inf hl) (chk hi)).of_accept h
    case case32 l i s hl hi => exact (Typed.idxMap l i _ (inf hl) (chk hi)).of_accept h
    case case35 l a b hc s hl =>
      simp only [Bool.and_eq_true] at hc
      exact (Typed.sliceArr l a b s (inf hl) (fun x hx => chk (optAll_spec hc.1 x hx)) fun x hx => chk (optAll_spec hc.2 x hx)).of_accept h
    case case36 l a b hc hl =>
      simp only [Bool.and_eq_true] at hc
      exact (Typed.sliceStr l a b (inf hl) (fun x hx => chk (optAll_spec hc.1 x hx)) fun x hx => chk (optAll_spec hc.2 x hx)).of_accept h
    case case39 l key s hl => exact (Typed.dot l key _ (inf hl)).of_accept h
    case case42 t0 inner hne hreg _ h1 => exact (Typed.assert _ inner hne hreg (exp h1)).of_accept h
    case case45 name args bsig hb t0 tys hinf hret hc =>
      simp only [Bool.and_eq_true] at hc
      obtain ⟨hl, hp⟩ := inferAll_spec _ args tys hinf
      obtain ⟨ha1, ha2⟩ := arityOk_spec hc.1
      exact (Typed.builtin name args bsig tys _ hb hret ha1 ha2 hl (fun i a ta ha hta => inf (hp i a ta ha hta))
        fun i ta hta => by simpa using predsOk_spec bsig tys 0 hc.2 i ta hta).of_accept h
    case case48 name args _ sig hphi t0 hret tv hv hc =>
      exact (Typed.callV name args sig tv _ hphi hv hret fun a ha => chk (List.all_eq_true.mp hc a ha)).of_accept h
    case case50 name args _ sig hphi t0 hret hv hc =>
      simp only [Bool.and_eq_true, decide_eq_true_eq] at hc
      exact (Typed.call name args sig _ hphi hv hret hc.1 fun i a pt ha hpt => chk (zip_all args sig.params _ hc.2 i a pt ha hpt)).of_accept h
    all_goals cases h

theorem tc_check {n : Nat} {e : Expr F} {t : Ty} (h : (tc Φ G n e (some t) == some t) = true) : Typed Φ G e t :=
  (tc_sound Φ G n e _ t (eq_of_beq h)).1

variable (Gg : Env) (ρ : Option Ty)

/-- **the statement checker is sound** -/
theorem tcSB_sound : ∀ (n : Nat),
    (∀ (Gs : List SEnv) (s : Stmt F) (Gs' : List SEnv), tcS Φ Gg ρ n Gs s = some Gs' → STyped Φ Gg ρ Gs s Gs') ∧
    (∀ (Gs : List SEnv) (b : List (Stmt F)), tcB Φ Gg ρ n Gs b = true → BTyped Φ Gg ρ Gs b) := by
  intro n
  induction n with
  | zero => exact ⟨fun _ _ _ h => (by cases h), fun _ _ h => (by cases h)⟩
  | succ n ih =>
    obtain ⟨ihS, ihB⟩ := ih
    constructor
    · intro Gs s Gs'
      have inf : ∀ {Gs : List SEnv} {e : Expr F} {t : Ty}, tc Φ (lookupG Gs Gg) n e none = some t → Typed Φ (lookupG Gs Gg) e t :=
        fun h => (tc_sound Φ _ n _ none _ h).1
      have chk : ∀ {Gs : List SEnv} {e : Expr F} {t : Ty}, (tc Φ (lookupG Gs Gg) n e (some t) == some t) = true →
          Typed Φ (lookupG Gs Gg) e t := fun h => tc_check Φ _ h
      generalize hk : n + 1 = k
      fun_cases tcS Φ Gg ρ k Gs s <;> intro h
      case case1 => cases hk
      all_goals obtain rfl := (Nat.succ.inj hk).symm
      case case2 => cases h; exact .noop Gs
      case case3 => cases h; exact .brk Gs
      case case5 nm e hne hd rest t _ ht => cases h; exact .declLocal hd rest nm e t hne (inf ht)
      case case7 nm e hne t hg _ hc => cases h; exact .declGlobal nm e t hne hg (chk hc)
      case case10 nm e t _ hg hc => cases h; exact .assignVar Gs nm e t hg (chk hc)
      case case13 l i e s _ hl hc =>
        cases h; simp only [Bool.and_eq_true] at hc
        exact .assignIdxArr Gs l i e s (inf hl) (chk hc.1) (chk hc.2)
      case case15 l i e s _ hl hc =>
        cases h; simp only [Bool.and_eq_true] at hc
        exact .assignIdxMap Gs l i e s (inf hl) (chk hc.1) (chk hc.2)
      case case18 l key e s _ hl hc => cases h; exact .assignDot Gs l key e s (inf hl) (chk hc)
      case case22 => cases h; exact .retNone Gs rfl
      case case24 e t _ hc => cases h; exact .retSome Gs e t rfl (chk hc)
      case case27 conds els _ hc =>
        cases h; simp only [Bool.and_eq_true, List.all_eq_true] at hc
        exact .ifS Gs conds els (fun c hcm => chk (hc.1 c hcm).1) (fun c hcm => ihB _ _ (hc.1 c hcm).2)
          fun b hb => ihB _ _ (optAll_spec hc.2 b hb)
      case case29 c body _ hc =>
        cases h; simp only [Bool.and_eq_true] at hc
        exact .whileS Gs c body (chk hc.1) (ihB _ _ hc.2)
      case case32 lv lvTy body hlv a b c _ hc =>
        cases h; simp only [Bool.and_eq_true] at hc
        exact .forStep Gs lv lvTy a b c body (lvOk_spec hlv) (fun x hx => chk (optAll_spec hc.1.1.1 x hx))
          (chk hc.1.1.2) (fun x hx => chk (optAll_spec hc.1.2 x hx)) (ihB _ _ hc.2)
      case case34 lv lvTy body hlv e s _ he hc =>
        cases h; simp only [Bool.and_eq_true, Bool.or_eq_true, decide_eq_true_eq] at hc
        exact .forArr Gs lv lvTy e s body (lvOk_spec hlv)
          (fun hne => hc.1.resolve_left fun h1 => hne (Option.isNone_iff_eq_none.mp h1)) (inf he) (ihB _ _ hc.2)
      case case36 lv lvTy body hlv e _ he hc => cases h; exact .forStr Gs lv lvTy e body (lvOk_spec hlv) (inf he) (ihB _ _ hc)
      case case38 lv lvTy body hlv e s _ he hc => cases h; exact .forMap Gs lv lvTy e s body (lvOk_spec hlv) (inf he) (ihB _ _ hc)
      case case41 args _ hc =>
        cases h
        refine .print Gs args fun a ha => ?_
        obtain ⟨t, ht⟩ := Option.isSome_iff_exists.mp (List.all_eq_true.mp hc a ha)
        exact ⟨t, inf ht⟩
      case case43 args _ _ hc => cases h; exact .callTest Gs args fun a ha => chk (List.all_eq_true.mp hc a ha)
      case case45 name args _ _ bsig hb tys hc _ hinf =>
        cases h; simp only [Bool.and_eq_true] at hc
        obtain ⟨hl, hp⟩ := inferAll_spec _ args tys hinf
        obtain ⟨ha1, ha2⟩ := arityOk_spec hc.1
        exact .callBi Gs name args bsig tys hb ha1 ha2 hl (fun i a ta ha hta => inf (hp i a ta ha hta))
          fun i ta hta => by simpa using predsOk_spec bsig tys 0 hc.2 i ta hta
      case case48 name args _ _ _ sig hphi tv hv _ hc =>
        cases h; exact .callFnV Gs name args sig tv hphi hv fun a ha => chk (List.all_eq_true.mp hc a ha)
      case case50 name args _ _ _ sig hphi hv _ hc =>
        cases h; simp only [Bool.and_eq_true, decide_eq_true_eq] at hc
        exact .callFn Gs name args sig hphi hv hc.1 fun i a pt ha hpt => chk (zip_all args sig.params _ hc.2 i a pt ha hpt)
      all_goals cases h
    · intro Gs b h
      cases b with
      | nil => exact .nil Gs
      | cons s rest =>
        unfold tcB at h
        split at h
        · next Gs' hs => exact .cons Gs Gs' s rest (ihS _ _ _ hs) (ihB _ _ h)
        · cases h

/-- **the program checker is sound**: a program it accepts — against the function signatures and the
global types the harness takes from the real parser — satisfies the hypotheses of
`program_never_goes_wrong` -/
theorem checkProg_sound (sigs : List (Str × FSig)) (globals : List (Str × Ty)) (prog : Program F) (fuel : Nat)
    (h : checkProg sigs globals prog fuel = true) :
    ProgOk (fenvOf sigs) (envOf globals) prog ∧ BTyped (fenvOf sigs) (envOf globals) none [] prog.stmts ∧ GgOk (envOf globals) ∧
      HandlersOk (fenvOf sigs) (envOf globals) prog := by
  unfold checkProg at h
  simp only [Bool.and_eq_true, List.all_eq_true] at h
  obtain ⟨⟨⟨⟨hall, hst⟩, hhd⟩, he1⟩, he2⟩ := h
  have sound := fun ρ => (tcSB_sound (F := F) (fenvOf sigs) (envOf globals) ρ fuel).2
  have entry := fun name sig (hs : fenvOf sigs name = some sig) => hall _ (lookup_mem name sigs sig hs)
  have hret : ∀ {sig : FSig} {b : Bool}, (sig.ret.isNone || b) = true → ∀ t, sig.ret = some t → b = true := by
    intro sig b h t ht; simpa [ht] using h
  refine ⟨⟨?_, ?_, ?_⟩, sound none _ _ hst,
    ⟨fun t ht => by simpa using optAll_spec he1 t ht, fun t ht => by simpa using optAll_spec he2 t ht⟩,
    fun hd hm => sound none _ _ (hhd hd hm)⟩
  · intro name sig hs
    have := entry name sig hs
    simp only [Bool.not_eq_true'] at this
    refine ⟨this.1, ?_⟩
    cases hf : lookupFunc prog.funcs name with
    | none => rw [hf] at this; simp at this
    | some fd => exact ⟨fd, rfl⟩
  · intro name sig fd hs hfd hvn
    have := entry name sig hs
    simp only [Bool.and_eq_true, Bool.not_eq_true', hfd, hvn, decide_eq_true_eq] at this
    obtain ⟨_, ⟨⟨hv, hl⟩, hb⟩, hr⟩ := this
    exact ⟨by simpa using hv, hl, sound _ _ _ hb, fun t ht => by simpa using hret hr t ht⟩
  · intro name sig fd tv hs hfd hvn
    have := entry name sig hs
    simp only [Bool.and_eq_true, Bool.not_eq_true', hfd, hvn] at this
    obtain ⟨_, ⟨⟨hvar, hpar⟩, hreg⟩, hr⟩ := this
    refine ⟨?_, by simpa using hpar, hreg, fun t ht => by simpa using hret hr t ht⟩
    cases hfv : fd.variadic with
    | none => rw [hfv] at hvar; simp at hvar
    | some vn =>
      rw [hfv] at hvar
      simp only [Bool.and_eq_true, Bool.not_eq_true', decide_eq_false_iff_not] at hvar
      exact ⟨vn, rfl, hvar.1, sound _ _ _ hvar.2⟩

/-- the theorem the harness relies on: a program the checker accepts never goes wrong -/
theorem checked_program_never_goes_wrong (ops : NumOps F) (ext : Ext F) (hx : ExtOk ext)
    (sigs : List (Str × FSig)) (globals : List (Str × Ty)) (prog : Program F) (cfuel : Nat)
    (h : checkProg sigs globals prog cfuel = true)
    (fuel : Nat) (st st' : St F) (S : Store) (hok : StOk S [] (envOf globals) st) (w : String) :
    (w ≠ "ErrTest" → execStmts ops ext prog fuel prog.stmts st ≠ .err (.internal w) st') ∧
    execStmts ops ext prog fuel prog.stmts st ≠ .err (.goPanic w) st' := by
  obtain ⟨hp, hb, hg, _⟩ := checkProg_sound sigs globals prog cfuel h
  exact program_never_goes_wrong ops ext prog (fenvOf sigs) (envOf globals) hx hg hp fuel st st' S hb hok w

/-- … and neither do its event handlers, on any payload in a well-typed state -/
theorem checked_handler_sound (ops : NumOps F) (ext : Ext F) (hx : ExtOk ext)
    (sigs : List (Str × FSig)) (globals : List (Str × Ty)) (prog : Program F) (cfuel : Nat)
    (h : checkProg sigs globals prog cfuel = true)
    (fuel : Nat) (name : Str) (payload : List (Val F)) (st : St F) (Gs : List SEnv) (S : Store)
    (hok : StOk S Gs (envOf globals) st) (hd : Handler F) (hfind : prog.handlers.find? (fun h => h.name == name) = some hd)
    (hlen : hd.params.length ≤ payload.length) :
    match (handleEvent ops ext prog fuel name payload st).1 with
    | .err o => Doc o
    | _ => ∃ S', Grows S S' ∧ StOk S' Gs (envOf globals) (handleEvent ops ext prog fuel name payload st).2 := by
  obtain ⟨hp, _, hg, hh⟩ := checkProg_sound sigs globals prog cfuel h
  exact handler_sound ops ext prog (fenvOf sigs) (envOf globals) hx hg hp hh fuel name payload st Gs S hok hd hfind hlen

/-- the globals every program starts with and their types -/
def builtinGlobals : List (Str × Ty) := [(lit "err", .bool), (lit "errmsg", .str), (lit "pi", .num)]

/-- the state a run starts in (globals err, errmsg, pi; an empty heap; any inputs and options) is well-typed -/
theorem StOk.initial (Gg : Env) (pi : F) (st : St F)
    (hg : st.global = initGlobals pi) (hl : st.locals = []) (hh : st.heap = #[])
    (h1 : ∀ t, Gg (lit "err") = some t → t = .bool) (h2 : ∀ t, Gg (lit "errmsg") = some t → t = .str)
    (h3 : ∀ t, Gg (lit "pi") = some t → t = .num) : StOk [] [] Gg st := by
  refine ⟨by rw [hl]; exact .nil, ?_, ?_⟩
  · rw [hg]
    intro p hp t ht
    simp only [initGlobals, List.mem_cons, List.not_mem_nil, or_false] at hp
    rcases hp with rfl | rfl | rfl
    · rw [h1 t ht]; exact .bool _
    · rw [h2 t ht]; exact .str _
    · rw [h3 t ht]; exact .num _
  · rw [hh]
    exact .empty

/-- … in particular for the global types the harness hands to the checker -/
theorem initial_state_ok (globals : List (Str × Ty)) (pi : F) (st : St F)
    (hg : st.global = initGlobals pi) (hl : st.locals = []) (hh : st.heap = #[])
    (h1 : ∀ t, envOf globals (lit "err") = some t → t = .bool)
    (h2 : ∀ t, envOf globals (lit "errmsg") = some t → t = .str)
    (h3 : ∀ t, envOf globals (lit "pi") = some t → t = .num) :
    StOk [] [] (envOf globals) st :=
  StOk.initial (envOf globals) pi st hg hl hh h1 h2 h3

end EvyV.TS
