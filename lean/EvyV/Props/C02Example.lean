import EvyV.Props.C02Check
/-! C02, non-vacuity: a program with a recursive function satisfies the hypotheses of the type soundness theorem; the
checker of Model/Check.lean accepts it, which is how they are shown. -/
namespace EvyV.TS.Example

/-! the program:

    func fact:num n:num
        if n <= 1
            return 1
        end
        return n * (fact n-1)
    end
    x := fact 5
    print x
-/

def nN : Str := lit "n"
def factN : Str := lit "fact"
def xN : Str := lit "x"

def factBody : List (Stmt Int) :=
  [.ifS [(.binary .lteq (.var nN) (.num 1), [.ret (some (.num 1))])] none,
   .ret (some (.binary .asterisk (.var nN) (.call factN [.binary .minus (.var nN) (.num 1)])))]

def exProg : Program Int :=
  { funcs := [{ name := factN, params := [nN], variadic := none, body := factBody }], handlers := [],
    stmts := [.decl xN (.call factN [.num 5]), .callS (.call (lit "print") [.any .num (.var xN)])] }

def exΦ : FEnv := fun n => if n = factN then some { params := [.num], ret := some .num } else none
def exGg : Env := fun n => if n = xN then some .num else none

theorem lookup_n' (Gs : List SEnv) : lookupG ([] :: [(nN, Ty.num)] :: Gs) exGg nN = some .num := by
  simp [lookupG, show nN ≠ underscore by decide, List.findSome?_cons, senvGet, List.lookup]

/-- what the harness would hand to the checker for this program -/
def exSigs : List (Str × FSig) := [(factN, { params := [.num], ret := some .num })]
def exGlobals : List (Str × Ty) := [(xN, .num)]

theorem exΦ_eq : fenvOf exSigs = exΦ := by
  funext n; by_cases h : n = factN <;> simp [fenvOf, exSigs, exΦ, List.lookup, h, beq_false_of_ne]

theorem exGg_eq : envOf exGlobals = exGg := by
  funext n; by_cases h : n = xN <;> simp [envOf, exGlobals, exGg, List.lookup, h, beq_false_of_ne]

theorem checked : checkProg exSigs exGlobals exProg 20 = true := by decide +kernel

theorem progOk : ProgOk exΦ exGg exProg := by
  have := (checkProg_sound exSigs exGlobals exProg 20 checked).1
  rwa [exΦ_eq, exGg_eq] at this

theorem stmtsTyped : BTyped exΦ exGg none [] exProg.stmts := by
  have := (checkProg_sound exSigs exGlobals exProg 20 checked).2.1
  rwa [exΦ_eq, exGg_eq] at this

theorem initOk : StOk [] [] exGg ({} : St Int) :=
  ⟨.nil, nofun, .empty⟩

theorem exGgOk : GgOk exGg := by
  constructor <;> intro t h <;> simp [exGg, xN, lit] at h

/-- so the theorem applies to this program: for every oracle and every number of steps -/
example (ext : Ext Int) (hx : ExtOk ext) (fuel : Nat) (st' : St Int) (w : String) :
    execStmts intOps ext exProg fuel exProg.stmts {} ≠ .err (.goPanic w) st' :=
  (program_never_goes_wrong intOps ext exProg exΦ exGg hx exGgOk progOk fuel {} st' [] stmtsTyped initOk w).2

end EvyV.TS.Example
