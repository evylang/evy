import EvyV.Props.C02Builtin
import EvyV.Props.C05
import EvyV.Lemmas.Interp
/-! C02: type soundness of the evaluator model. Well-typed code (Spec/WellTyped.lean) run for any number of steps in a
well-typed state (`StOk`) ends in a well-typed state, with a value of the static type and every scope pushed popped
again, or in a documented outcome: never with an internal error or a Go panic. One induction over the step budget
for all functions of Model/Interp.lean (`all_sound`), walking them in bind form (Lemmas/Interp.lean). That a function
with a result type returns a value is Props/C05.lean `typed_function_returns_a_value`. -/
namespace EvyV.TS

variable {F : Type} (ops : NumOps F) (ext : Ext F) (prog : Program F) (Φ : FEnv) (Gg : Env)

/-- a value satisfying `P` in a state that is well-typed under the same scopes, or a documented
outcome -/
def GoodX {α : Type} (P : Store → α → Prop) (S : Store) (Gs : List SEnv) : Res F α → Prop
  | .ok a st' => ∃ S', Grows S S' ∧ StOk S' Gs Gg st' ∧ P S' a
  | .err o _ => Doc o

theorem Good.toX {α : Type} {P : Store → α → Prop} {S : Store} {Gs : List SEnv} {st : St F} {r : Res F α}
    (h : Good P S st r) (hok : StOk S Gs Gg st) : GoodX Gg P S Gs r := by
  cases r with
  | err o s => exact h
  | ok a s =>
    obtain ⟨S', g, hk, hp, l, gl⟩ := h
    exact ⟨S', g, hok.mono g hk l gl, hp⟩

theorem GoodX.grow {α : Type} {P : Store → α → Prop} {S S1 : Store} {Gs : List SEnv} {r : Res F α}
    (h : GoodX Gg P S1 Gs r) (g : Grows S S1) : GoodX Gg P S Gs r := by
  cases r with
  | err o s => exact h
  | ok a s => obtain ⟨S', g', hok, hp⟩ := h; exact ⟨S', g.trans g', hok, hp⟩

theorem GoodX.imp {α : Type} {P Q : Store → α → Prop} {S : Store} {Gs : List SEnv} {r : Res F α}
    (h : GoodX Gg P S Gs r) (hpq : ∀ S' a, P S' a → Q S' a) : GoodX Gg Q S Gs r := by
  cases r with
  | err o s => exact h
  | ok a s => obtain ⟨S', g', hok, hp⟩ := h; exact ⟨S', g', hok, hpq _ _ hp⟩

abbrev PL (s : Ty) : Store → List (Val F) → Prop := fun S vs => ∀ v ∈ vs, VT S v s
abbrev PP (s : Ty) : Store → List (Key × Val F) → Prop := fun S ps => ∀ p ∈ ps, VT S p.2 s
abbrev PO : Store → Option (Val F) → Prop := fun S o => ∀ v, o = some v → VT S v .num
abbrev PA : Store → List (Val F) → Prop := fun S vs => ∀ v ∈ vs, ∃ t, VT S v t

/-- the value of a call: of the result type, if the function has one -/
abbrev PR (ρ : Option Ty) : Store → Val F → Prop := fun S v => ∀ t, ρ = some t → VT S v t

theorem bindParams_ok {S : Store} (ps : List Str) : ∀ (ts : List Ty) (vs : List (Val F)) (st : St F) (g : SEnv),
    StOk S [g] Gg st → ps.length = ts.length → ts.length ≤ vs.length →
    (∀ (i : Nat) v pt, vs[i]? = some v → ts[i]? = some pt → VT S v pt) →
    StOk S [paramScope ps ts g] Gg (bindParams ps vs st) := by
  induction ps with
  | nil => intro ts vs st g hok _ _ _; cases ts <;> cases vs <;> exact hok
  | cons p ps ih =>
    intro ts vs st g hok hlen hvl hty
    cases ts with
    | nil => cases hlen
    | cons t ts =>
      cases vs with
      | nil => cases hvl
      | cons v vs =>
        have ih := fun st g hok => ih ts vs st g hok (Nat.succ.inj hlen) (Nat.le_of_succ_le_succ hvl) fun i => hty (i + 1)
        simp only [bindParams, paramScope]
        by_cases hp : p = underscore
        · rw [if_pos hp, show setVar st p v = st from if_pos hp]; exact ih st g hok
        · rw [if_neg hp]; exact ih _ _ (hok.setVar Gg hp (hty 0 v t rfl rfl))

/-- one field per function of the interpreter and kind of typing hypothesis under which the induction calls it -/
structure AllSound (n : Nat) : Prop where
  evalE : ∀ (e : Expr F) st Gs S t, Typed Φ (lookupG Gs Gg) e t → StOk S Gs Gg st →
    GoodX Gg (PV t) S Gs (evalE ops ext prog n e st)
  -- `evalList` three times: elements of one type (array literal), of any types (`evalA`: `print`), one per
  -- parameter type (`evalZ`: calls)
  evalL : ∀ (es : List (Expr F)) st Gs S s, (∀ e ∈ es, Typed Φ (lookupG Gs Gg) e s) → StOk S Gs Gg st →
    GoodX Gg (PL s) S Gs (evalList ops ext prog n es st)
  evalP : ∀ (ps : List (Str × Expr F)) st Gs S s, (∀ p ∈ ps, Typed Φ (lookupG Gs Gg) p.2 s) → StOk S Gs Gg st →
    GoodX Gg (PP s) S Gs (evalPairs ops ext prog n ps st)
  evalO : ∀ (oe : Option (Expr F)) st Gs S, (∀ x, oe = some x → Typed Φ (lookupG Gs Gg) x .num) → StOk S Gs Gg st →
    GoodX Gg PO S Gs (evalOpt ops ext prog n oe st)
  evalA : ∀ (es : List (Expr F)) st Gs S, (∀ e ∈ es, ∃ t, Typed Φ (lookupG Gs Gg) e t) → StOk S Gs Gg st →
    GoodX Gg PA S Gs (evalList ops ext prog n es st)
  evalZ : ∀ (es : List (Expr F)) (ts : List Ty) st Gs S, es.length = ts.length →
    (∀ (i : Nat) a pt, es[i]? = some a → ts[i]? = some pt → Typed Φ (lookupG Gs Gg) a pt) → StOk S Gs Gg st →
    GoodX Gg (PZ ts) S Gs (evalList ops ext prog n es st)
  numOr : ∀ (oe : Option (Expr F)) (d : F) st Gs S, (∀ x, oe = some x → Typed Φ (lookupG Gs Gg) x .num) → StOk S Gs Gg st →
    GoodX Gg (fun _ _ => True) S Gs (evalNumOr ops ext prog n oe d st)
  -- `evalCall` five times: a variadic user function, one with fixed parameters, a built-in of `builtinSig`, `test`, `print`
  callV : ∀ (name : Str) (args : List (Expr F)) (sig : FSig) (tv : Ty) st Gs S, Φ name = some sig → sig.variadic = some tv →
    (∀ a ∈ args, Typed Φ (lookupG Gs Gg) a tv) → StOk S Gs Gg st →
    GoodX Gg (PR sig.ret) S Gs (evalCall ops ext prog n name args st)
  call : ∀ (name : Str) (args : List (Expr F)) (sig : FSig) st Gs S, Φ name = some sig → sig.variadic = none → args.length = sig.params.length →
    (∀ (i : Nat) a pt, args[i]? = some a → sig.params[i]? = some pt → Typed Φ (lookupG Gs Gg) a pt) → StOk S Gs Gg st →
    GoodX Gg (PR sig.ret) S Gs (evalCall ops ext prog n name args st)
  builtin : ∀ (name : Str) (args : List (Expr F)) (sig : BSig) (tys : List Ty) st Gs S, builtinSig name = some sig →
    sig.params.length ≤ args.length → (sig.rest = none → args.length = sig.params.length) → args.length = tys.length →
    (∀ (i : Nat) a ta, args[i]? = some a → tys[i]? = some ta → Typed Φ (lookupG Gs Gg) a ta) →
    (∀ (i : Nat) ta, tys[i]? = some ta → sig.paramAt i ta = true) → StOk S Gs Gg st →
    GoodX Gg (PR sig.ret) S Gs (evalCall ops ext prog n name args st)
  test : ∀ (args : List (Expr F)) st Gs S, (∀ a ∈ args, Typed Φ (lookupG Gs Gg) a .any) → StOk S Gs Gg st →
    GoodX Gg (fun _ (_ : Val F) => True) S Gs (evalCall ops ext prog n (lit "test") args st)
  print : ∀ (args : List (Expr F)) st Gs S, (∀ a ∈ args, ∃ t, Typed Φ (lookupG Gs Gg) a t) → StOk S Gs Gg st →
    GoodX Gg (fun _ (_ : Val F) => True) S Gs (evalCall ops ext prog n (lit "print") args st)
  execS : ∀ (ρ : Option Ty) (s : Stmt F) st Gs Gs' S, STyped Φ Gg ρ Gs s Gs' → StOk S Gs Gg st →
    GoodS Gg ρ S Gs Gs' (execS ops ext prog n s st)
  execB : ∀ (ρ : Option Ty) (b : List (Stmt F)) st Gs S, BTyped Φ Gg ρ Gs b → StOk S Gs Gg st →
    GoodB Gg ρ S Gs (execStmts ops ext prog n b st)
  execN : ∀ (ρ : Option Ty) (b : List (Stmt F)) st Gs S, BTyped Φ Gg ρ Gs b → StOk S Gs Gg st →
    GoodB Gg ρ S Gs (execBlockNode ops ext prog n b st)
  execC : ∀ (ρ : Option Ty) (c : Expr F) (body : List (Stmt F)) st Gs S, Typed Φ (lookupG Gs Gg) c .bool →
    BTyped Φ Gg ρ ([] :: Gs) body → StOk S Gs Gg st → GoodC Gg ρ S Gs (execCond ops ext prog n c body st)
  execI : ∀ (ρ : Option Ty) (conds : List (Expr F × List (Stmt F))) (els : Option (List (Stmt F))) st Gs S,
    (∀ c ∈ conds, Typed Φ (lookupG Gs Gg) c.1 .bool) → (∀ c ∈ conds, BTyped Φ Gg ρ ([] :: Gs) c.2) →
    (∀ b, els = some b → BTyped Φ Gg ρ ([] :: Gs) b) → StOk S Gs Gg st →
    GoodK Gg ρ S Gs (execIfChain ops ext prog n conds els st)
  execW : ∀ (ρ : Option Ty) (c : Expr F) (body : List (Stmt F)) st Gs S, Typed Φ (lookupG Gs Gg) c .bool →
    BTyped Φ Gg ρ ([] :: Gs) body → StOk S Gs Gg st → GoodK Gg ρ S Gs (execWhile ops ext prog n c body st)
  -- the loop of a for statement, in the scope of its loop variable
  execF : ∀ (ρ : Option Ty) (lv : Option Str) (t : Ty) (r : Ranger F) (body : List (Stmt F)) st Gs S,
    (∀ n, lv = some n → n ≠ underscore) → RangerOk S r t → BTyped Φ Gg ρ ([] :: loopScope lv t :: Gs) body →
    StOk S (loopScope lv t :: Gs) Gg st →
    GoodK Gg ρ S (loopScope lv t :: Gs)
      (execForLoop ops ext prog n (match lv with | some n => n | none => underscore) r body st)

/-- reads a `GoodX` fact as the two cases of the result -/
@[elab_as_elim]
theorem GoodX.elim {Gg : Env} {α : Type} {P : Store → α → Prop} {S : Store} {Gs : List SEnv} {r : Res F α} {C : Res F α → Prop}
    (h : GoodX Gg P S Gs r) (err : ∀ o s, Doc o → C (.err o s))
    (ok : ∀ a s S1, Grows S S1 → StOk S1 Gs Gg s → P S1 a → C (.ok a s)) : C r := by
  cases r with
  | err o s => exact err o s h
  | ok a s => obtain ⟨S1, g, hok, hp⟩ := h; exact ok a s S1 g hok hp

theorem Typed.inner {Gs : List SEnv} {e : Expr F} {t : Ty} (h : Typed Φ (lookupG Gs Gg) e t) : Typed Φ (lookupG ([] :: Gs) Gg) e t :=
  (lookupG_push Gs Gg).symm ▸ h

/-! One rule per result predicate for `Res.bind` (Lemmas/Interp.lean): the claim about a recursive call, then the
claim about what follows it from any well-typed state over a grown store. -/

section
variable {Gg} {ρ : Option Ty} {α β : Type} {P : Store → α → Prop} {S : Store} {Gs Gs' : List SEnv} {r : Res F α}

theorem GoodX.pure {a : α} {st : St F} (hok : StOk S Gs Gg st) (hp : P S a) : GoodX Gg P S Gs (.ok a st) :=
  ⟨S, .refl S, hok, hp⟩

theorem GoodK.pure {c : Completion F} {st : St F} (hok : StOk S Gs Gg st) (hc : ComplOk S ρ c) : GoodK Gg ρ S Gs (.ok c st) :=
  ⟨S, .refl S, hok, hc⟩

/-- into any result predicate `T` that passes documented outcomes on and may forget store growth -/
theorem GoodX.bindT {T : Store → Res F β → Prop} (herr : ∀ {S o s}, Doc o → T S (.err o s))
    (hgrow : ∀ {S S1 r}, T S1 r → Grows S S1 → T S r) {k : α → St F → Res F β} (h : GoodX Gg P S Gs r)
    (hk : ∀ a s S1, Grows S S1 → StOk S1 Gs Gg s → P S1 a → T S1 (k a s)) : T S (r.bind k) := by
  cases r with
  | err o s => exact herr h
  | ok a s => obtain ⟨S1, g, hok, hp⟩ := h; exact hgrow (hk a s S1 g hok hp) g

theorem GoodS.grow {S1 : Store} {r : Res F (Completion F)} (h : GoodS Gg ρ S1 Gs Gs' r) (g : Grows S S1) : GoodS Gg ρ S Gs Gs' r := by
  cases r with
  | err o s => exact h
  | ok c s => obtain ⟨S', Gx, g', h⟩ := h; exact ⟨S', Gx, g.trans g', h⟩

theorem GoodX.bind {Q : Store → β → Prop} {k : α → St F → Res F β} (h : GoodX Gg P S Gs r)
    (hk : ∀ a s S1, Grows S S1 → StOk S1 Gs Gg s → P S1 a → GoodX Gg Q S1 Gs' (k a s)) : GoodX Gg Q S Gs' (r.bind k) :=
  h.bindT (T := fun S r => GoodX Gg Q S Gs' r) id (GoodX.grow Gg) hk

theorem GoodX.bindS {Gs1 Gs2 : List SEnv} {k : α → St F → Res F (Completion F)} (h : GoodX Gg P S Gs r)
    (hk : ∀ a s S1, Grows S S1 → StOk S1 Gs Gg s → P S1 a → GoodS Gg ρ S1 Gs1 Gs2 (k a s)) : GoodS Gg ρ S Gs1 Gs2 (r.bind k) :=
  h.bindT (T := fun S r => GoodS Gg ρ S Gs1 Gs2 r) id GoodS.grow hk

theorem GoodX.dropS (h : GoodX Gg P S Gs r) : GoodS Gg ρ S Gs Gs (r.bind fun _ st' => .ok .normal st') :=
  h.bindS fun _ _ S1 _ hok1 _ => .normal Gg ρ hok1 (.refl S1)

theorem GoodX.bindK {k : α → St F → Res F (Completion F)} (h : GoodX Gg P S Gs r)
    (hk : ∀ a s S1, Grows S S1 → StOk S1 Gs Gg s → P S1 a → GoodK Gg ρ S1 Gs' (k a s)) : GoodK Gg ρ S Gs' (r.bind k) :=
  h.bindT (T := fun S r => GoodK Gg ρ S Gs' r) id (GoodK.grow Gg ρ) hk

theorem GoodK.bind {r : Res F (Completion F)} {k : Completion F → St F → Res F (Completion F)} (h : GoodK Gg ρ S Gs r)
    (hk : ∀ c s S1, Grows S S1 → StOk S1 Gs Gg s → ComplOk S1 ρ c → GoodK Gg ρ S1 Gs' (k c s)) : GoodK Gg ρ S Gs' (r.bind k) := by
  cases r with
  | err o s => exact h
  | ok c s => obtain ⟨S1, g, hok, hc⟩ := h; exact (hk c s S1 g hok hc).grow Gg ρ g

theorem GoodC.bindK {r : Res F (Completion F × Bool)} {k : Completion F × Bool → St F → Res F (Completion F)} (h : GoodC Gg ρ S Gs r)
    (hk : ∀ c b s S1, Grows S S1 → StOk S1 Gs Gg s → ComplOk S1 ρ c → GoodK Gg ρ S1 Gs (k (c, b) s)) : GoodK Gg ρ S Gs (r.bind k) := by
  cases r with
  | err o s => exact h
  | ok p s => obtain ⟨S1, g, hok, hc⟩ := h; exact (hk p.1 p.2 s S1 g hok hc).grow Gg ρ g

theorem GoodS.bindB {r : Res F (Completion F)} {k : Completion F → St F → Res F (Completion F)} (h : GoodS Gg ρ S Gs Gs' r)
    (hk : ∀ c s S1 Gx, Grows S S1 → StOk S1 Gx Gg s → Gx.tail = Gs.tail → Gx.length = Gs.length → (c = .normal → Gx = Gs') →
      ComplOk S1 ρ c → GoodB Gg ρ S1 Gx (k c s)) : GoodB Gg ρ S Gs (r.bind k) := by
  cases r with
  | err o s => exact h
  | ok c s =>
    obtain ⟨S1, Gx, g1, hok1, ht, hlen, hn, hc⟩ := h
    show GoodB Gg ρ S Gs (k c s)
    exact (hk c s S1 Gx g1 hok1 ht hlen hn hc).elim (fun _ _ h => h) fun c2 s2 S2 Gy g2 hok2 ht2 hlen2 hc2 =>
      ⟨S2, Gy, g1.trans g2, hok2, ht2.trans ht, hlen2.trans hlen, hc2⟩

theorem GoodB.pop {r : Res F (Completion F)} (h : GoodB Gg ρ S ([] :: Gs) r) : GoodK Gg ρ S Gs (r.mapSt popScope) := by
  cases r with
  | err o s => exact h
  | ok c s => obtain ⟨S1, Gx, g, hok, ht, hlen, hc⟩ := h; exact ⟨S1, g, hok.pop Gg (by simpa using ht) (by simpa using hlen), hc⟩

theorem GoodK.popS {lvs : SEnv} {r : Res F (Completion F)} (h : GoodK Gg ρ S (lvs :: Gs) r) : GoodS Gg ρ S Gs Gs (r.mapSt popScope) := by
  cases r with
  | err o s => exact h
  | ok c s => obtain ⟨S1, g, hok, hc⟩ := h; exact ⟨S1, Gs, g, hok.pop Gg rfl (by simp), rfl, rfl, fun _ => rfl, hc⟩

theorem StOk.tickR {T : Res F β → Prop} {st0 : St F} {k : Unit → St F → Res F β} (hok : StOk S Gs Gg st0)
    (herr : T (.err .stopped st0)) (h : ∀ st, StOk S Gs Gg st → T (k () st)) : T ((tickR st0).bind k) :=
  tickR_elim (T := fun r => T (r.bind k)) st0 (fun _ => herr) fun st ht => h st (hok.tick Gg ht)

end

section
variable {ops ext prog Φ Gg} {n : Nat} (ih : AllSound ops ext prog Φ Gg n)
include ih

/-- when the left value decides, the model applies the operator to it twice (`applyBinary … op left left`): `OpTy.sc`
types it as a right operand too -/
theorem binary_case (hx : ExtOk ext) {Gs : List SEnv} {S : Store} {st : St F} {op : Op} {l r : Expr F} {tl tr t : Ty}
    (hop : OpTy op tl tr t) (hl : Typed Φ (lookupG Gs Gg) l tl) (hr : Typed Φ (lookupG Gs Gg) r tr) (hok : StOk S Gs Gg st) :
    GoodX Gg (PV t) S Gs ((evalE ops ext prog n l st).bind fun left st' =>
      if canShortCircuit op left then applyBinary ops ext st' op left left
      else (evalE ops ext prog n r st').bind fun right st'' => applyBinary ops ext st'' op left right) := by
  refine (ih.evalE l st Gs S tl hl hok).bind fun left s1 S1 g1 hok1 hv1 => ?_
  split
  · rename_i hc
    exact (applyBinary_typed ops ext hx hop hok1.heap hv1 (hop.sc hc hv1)).toX Gg hok1
  · exact (ih.evalE r s1 Gs S1 tr hr hok1).bind fun right s2 S2 g2 hok2 hv2 =>
      (applyBinary_typed ops ext hx hop hok2.heap (hv1.mono g2) hv2).toX Gg hok2

theorem index_case {Gs : List SEnv} {S : Store} {st : St F} {l i : Expr F} {tl ti t : Ty} (hty : IdxTy tl ti t)
    (hl : Typed Φ (lookupG Gs Gg) l tl) (hi : Typed Φ (lookupG Gs Gg) i ti) (hok : StOk S Gs Gg st) :
    GoodX Gg (PV t) S Gs ((evalE ops ext prog n l st).bind fun left st' =>
      (evalE ops ext prog n i st').bind fun idx st'' => indexVal ops st'' left idx) :=
  (ih.evalE l st Gs S tl hl hok).bind fun _ s1 S1 _ hok1 hv1 =>
    (ih.evalE i s1 Gs S1 ti hi hok1).bind fun _ _ _ g2 hok2 hv2 =>
      (indexVal_typed ops hty hok2.heap (hv1.mono g2) hv2).toX Gg hok2

theorem slice_case {Gs : List SEnv} {S : Store} {st : St F} {l : Expr F} {a b : Option (Expr F)} {t : Ty}
    (hty : t = .str ∨ ∃ s, t = .arr s) (hl : Typed Φ (lookupG Gs Gg) l t)
    (ha : ∀ x, a = some x → Typed Φ (lookupG Gs Gg) x .num) (hb : ∀ x, b = some x → Typed Φ (lookupG Gs Gg) x .num)
    (hok : StOk S Gs Gg st) :
    GoodX Gg (PV t) S Gs ((evalE ops ext prog n l st).bind fun left st' =>
      (evalOpt ops ext prog n a st').bind fun sv st'' =>
      (evalOpt ops ext prog n b st'').bind fun ev st3 => sliceVal ops st3 left sv ev) :=
  (ih.evalE l st Gs S t hl hok).bind fun _ s1 S1 _ hok1 hv1 =>
    (ih.evalO a s1 Gs S1 ha hok1).bind fun _ s2 S2 g2 hok2 hv2 =>
      (ih.evalO b s2 Gs S2 hb hok2).bind fun _ _ _ g3 hok3 hv3 =>
        (sliceVal_typed ops hty hok3.heap ((hv1.mono g2).mono g3) (fun v hv => (hv2 v hv).mono g3) hv3).toX Gg hok3

theorem for_case {ρ : Option Ty} {Gs : List SEnv} {S : Store} {st : St F} {lv : Option Str} {lvTy t : Ty} {range : ForRange F}
    {body : List (Stmt F)} (hlv : ∀ n, lv = some n → n ≠ underscore) (hbody : BTyped Φ Gg ρ ([] :: loopScope lv t :: Gs) body)
    (hr : GoodX Gg (fun S r => RangerOk S r t) S (loopScope lv t :: Gs) (newRange ops ext prog n lv lvTy range (pushScope st))) :
    GoodS Gg ρ S Gs Gs (((newRange ops ext prog n lv lvTy range (pushScope st)).bind fun r s =>
      execForLoop ops ext prog n (match (generalizing := false) lv with | some n => n | none => underscore) r body s).mapSt popScope) :=
  GoodK.popS (hr.bindK fun r s S1 _ hok1 hr => ih.execF ρ lv t r body s Gs S1 hlv hr hbody hok1)

theorem callUser_sound {ρ : Option Ty} {fd : FuncDef F} {vs : List (Val F)} {g : SEnv}
    {Gs : List SEnv} {S1 Sc : Store} {s1 : St F} (hok1 : StOk S1 Gs Gg s1) (gc : Grows S1 Sc)
    (hokc : StOk Sc [g] Gg (calleeState fd vs s1)) (hbody : BTyped Φ Gg ρ [g] fd.body)
    (hret : ∀ t, ρ = some t → blockTerms fd.body = true ∧ fnOkB false fd.body = true) :
    GoodX Gg (PR ρ) S1 Gs (callUser ops ext prog n fd vs s1) := by
  unfold callUser
  have h2 := ih.execN ρ fd.body _ [g] Sc hbody hokc
  cases hq2 : execBlockNode ops ext prog n fd.body (calleeState fd vs s1) with
  | err o s4 => rw [hq2] at h2; exact h2
  | ok c s4 =>
    rw [hq2] at h2
    obtain ⟨S4, Gx, g4, hok4, _, _, hc4⟩ := h2
    refine ⟨S4, gc.trans g4, ⟨hok1.locals.mono (gc.trans g4), hok4.global, hok4.heap⟩, fun t ht => ?_⟩
    obtain ⟨v, rfl⟩ := C05.typed_function_returns_a_value ops ext prog n fd.body _ s4 _ (hret t ht).1 (hret t ht).2 hq2
    obtain ⟨t', ht', hv'⟩ := hc4
    cases ht'.symm.trans ht; exact hv'

end

theorem all_sound (hx : ExtOk ext) (hg : GgOk Gg) (hp : ProgOk Φ Gg prog) (n : Nat) : AllSound ops ext prog Φ Gg n := by
  induction n with
  | zero =>
    constructor <;> intros <;> exact trivial
  | succ n ih =>
    constructor
    case evalE =>
      intro e st0 Gs S t hty hok0
      rw [evalE_succ]
      refine hok0.tickR trivial fun st hok => ?_
      cases hty with
      | num v => exact .pure hok (.num v)
      | str v => exact .pure hok (.str v)
      | bool v => exact .pure hok (.bool v)
      | var nm _ hG =>
        simp only
        cases hg : getVar st nm with
        | none => exact trivial
        | some v => exact .pure hok (hok.envOk nm t v hG hg)
      | any t' inner hne hin =>
        refine (ih.evalE inner st Gs S t' hin hok).bind fun v s1 S1 g1 hok1 hv1 => ?_
        cases v with
        | any t2 w => cases hv1; exact absurd rfl hne
        | _ => exact .pure hok1 (.any t' _ hne hv1)
      | arr elems s hs hel =>
        exact (ih.evalL elems st Gs S s hel hok).bind fun vs s1 S1 g1 hok1 hv1 => (Good.alloc_arr hok1.heap hs hv1).toX Gg hok1
      | mapLit pairs s hs hel =>
        exact (ih.evalP pairs st Gs S s hel hok).bind fun ps s1 S1 g1 hok1 hv1 =>
          (Good.alloc_map hok1.heap hs (ofLiteral_typed ps hv1)).toX Gg hok1
      | group inner _ hin => exact ih.evalE inner st Gs S t hin hok
      | neg inner hin =>
        refine (ih.evalE inner st Gs S .num hin hok).bind fun v s1 S1 g1 hok1 hv1 => ?_
        obtain ⟨x, rfl⟩ := hv1.num_inv
        exact .pure hok1 (.num _)
      | not inner hin =>
        refine (ih.evalE inner st Gs S .bool hin hok).bind fun v s1 S1 g1 hok1 hv1 => ?_
        obtain ⟨x, rfl⟩ := hv1.bool_inv
        exact .pure hok1 (.bool _)
      | arith op l r hop hl hr => exact binary_case ih hx (.arith hop) hl hr hok
      | cmpNum op l r hop hl hr => exact binary_case ih hx (.cmpNum hop) hl hr hok
      | cmpStr op l r hop hl hr => exact binary_case ih hx (.cmpStr hop) hl hr hok
      | concat l r hl hr => exact binary_case ih hx .concat hl hr hok
      | logic op l r hop hl hr => exact binary_case ih hx (.logic hop) hl hr hok
      | eq op l r t' hop hl hr => exact binary_case ih hx (.eq hop) hl hr hok
      | arrCat l r s hl hr => exact binary_case ih hx .arrCat hl hr hok
      | arrRep l r s hl hr => exact binary_case ih hx .arrRep hl hr hok
      | idxArr l i _ hl hi => exact index_case ih .arr hl hi hok
      | idxStr l i hl hi => exact index_case ih .str hl hi hok
      | idxMap l i _ hl hi => exact index_case ih .map hl hi hok
      | sliceArr l a b s hl ha hb => exact slice_case ih (.inr ⟨s, rfl⟩) hl ha hb hok
      | sliceStr l a b hl ha hb => exact slice_case ih (.inl rfl) hl ha hb hok
      | dot l key _ hl =>
        refine (ih.evalE l st Gs S _ hl hok).bind fun v s1 S1 g1 hok1 hv1 => ?_
        obtain ⟨a, rfl, ha⟩ := hv1.map_inv
        obtain ⟨m, hm, hms⟩ := hok1.heap.map a _ ha
        simp only [heapGet, hm]
        cases hg : m.get key with
        | none => exact trivial
        | some v => exact .pure hok1 (get_typed m hms key v hg)
      | assert _ inner hne hreg hin =>
        refine (ih.evalE inner st Gs S .any hin hok).bind fun v s1 S1 g1 hok1 hv1 => ?_
        obtain ⟨t', w, rfl, hne', hw⟩ := hv1.any_inv
        simp only
        split
        · rename_i heq
          cases equals_eq (hok1.heap.reg_of hw) hreg heq
          exact .pure hok1 hw
        · exact trivial
      | builtin name args sig tys _ hsig hret hle hfix hlen hargs hpred =>
        exact (ih.builtin name args sig tys st Gs S hsig hle hfix hlen hargs hpred hok).imp Gg (fun S' v h => h t hret)
      | callV name args sig tv _ hphi hv hret hargs =>
        exact (ih.callV name args sig tv st Gs S hphi hv hargs hok).imp Gg (fun S' v h => h t hret)
      | call name args sig _ hphi hvn hret hlen hargs =>
        exact (ih.call name args sig st Gs S hphi hvn hlen hargs hok).imp Gg (fun S' v h => h t hret)
    case evalL =>
      intro es st Gs S s hes hok
      rw [evalList_succ]
      cases es with
      | nil => exact .pure hok nofun
      | cons e rest =>
        obtain ⟨he, hrest⟩ := List.forall_mem_cons.mp hes
        exact (ih.evalE e st Gs S s he hok).bind fun v s1 S1 g1 hok1 hv1 =>
          (ih.evalL rest s1 Gs S1 s hrest hok1).bind fun vs s2 S2 g2 hok2 hv2 =>
            .pure hok2 (List.forall_mem_cons.mpr ⟨hv1.mono g2, hv2⟩)
    case evalP =>
      intro ps st Gs S s hps hok
      rw [evalPairs_succ]
      match ps, hps with
      | [], _ => exact .pure hok nofun
      | (k, e) :: rest, hps =>
        obtain ⟨he, hrest⟩ := List.forall_mem_cons.mp hps
        exact (ih.evalE e st Gs S s he hok).bind fun v s1 S1 g1 hok1 hv1 =>
          (ih.evalP rest s1 Gs S1 s hrest hok1).bind fun vs s2 S2 g2 hok2 hv2 =>
            .pure hok2 (List.forall_mem_cons.mpr ⟨hv1.mono g2, hv2⟩)
    case evalO =>
      intro oe st Gs S hoe hok
      rw [evalOpt_succ]
      cases oe with
      | none => exact .pure hok nofun
      | some e =>
        exact (ih.evalE e st Gs S .num (hoe e rfl) hok).bind fun v s1 S1 _ hok1 hv1 =>
          .pure hok1 (fun w hw => Option.some.inj hw ▸ hv1)
    case evalA =>
      intro es st Gs S hes hok
      rw [evalList_succ]
      cases es with
      | nil => exact .pure hok nofun
      | cons e rest =>
        obtain ⟨⟨t, hty⟩, hrest⟩ := List.forall_mem_cons.mp hes
        exact (ih.evalE e st Gs S t hty hok).bind fun v s1 S1 g1 hok1 hv1 =>
          (ih.evalA rest s1 Gs S1 hrest hok1).bind fun vs s2 S2 g2 hok2 hv2 =>
            .pure hok2 (List.forall_mem_cons.mpr ⟨⟨t, hv1.mono g2⟩, hv2⟩)
    case evalZ =>
      intro es ts st Gs S hlen hes hok
      rw [evalList_succ]
      match es, ts, hlen, hes with
      | [], [], _, _ => exact .pure hok ⟨rfl, by intro i v pt hv; simp at hv⟩
      | e :: rest, t :: ts, hlen, hes =>
        refine (ih.evalE e st Gs S t (hes 0 e t rfl rfl) hok).bind fun v s1 S1 g1 hok1 hv1 =>
          (ih.evalZ rest ts s1 Gs S1 (Nat.succ.inj hlen) (fun i => hes (i + 1)) hok1).bind fun vs s2 S2 g2 hok2 ⟨hl2, hv2⟩ =>
            .pure hok2 ⟨congrArg Nat.succ hl2, fun i w pt hw hpt => ?_⟩
        cases i with
        | zero => cases hw; cases hpt; exact hv1.mono g2
        | succ j => exact hv2 j w pt hw hpt
    case numOr =>
      intro oe d st Gs S hoe hok
      rw [evalNumOr_succ]
      have hte : Typed Φ (lookupG Gs Gg) (match oe with | some e => e | none => .num d) .num := by
        cases oe with
        | none => exact .num d
        | some e => exact hoe e rfl
      refine (ih.evalE _ st Gs S .num hte hok).bind fun v s1 S1 _ hok1 hv1 => ?_
      obtain ⟨x, rfl⟩ := hv1.num_inv
      exact .pure hok1 trivial
    case callV =>
      intro name args sig tv st Gs S hphi hv hargs hok
      rw [evalCall_succ]
      refine (ih.evalL args st Gs S tv hargs hok).bind fun vs s1 S1 g1 hok1 hvs => ?_
      obtain ⟨hnb, fd, hfd⟩ := hp.defined name sig hphi
      obtain ⟨⟨vn, hvar, hvne, hbody⟩, hpar, hreg, hret⟩ := hp.typedV name sig fd tv hphi hfd hv
      simp only [callBuiltin_none ops ext name vs s1 hnb, hfd, hpar, List.length_nil, Nat.not_lt_zero, if_false]
      -- the body starts with all arguments, as one array, bound to the variadic parameter
      obtain ⟨S2, g2, hk2, vt2, _, _⟩ := Good.alloc_arr hok1.heap hreg hvs
      have hcs : calleeState fd vs s1 =
          { s1 with locals := [[(vn, Val.arr s1.heap.size)]], heap := s1.heap.push (.arr vs) } := by
        simp [calleeState, hvar, hpar, bindParams, alloc, setVar, hvne, scopeSet]
      exact callUser_sound ih hok1 g2
        (hcs ▸ ⟨.cons (.cons ⟨rfl, vt2⟩ .nil) .nil, hok1.global.mono g2, hk2⟩) hbody hret
    case call =>
      intro name args sig st Gs S hphi hvn hlen hargs hok
      rw [evalCall_succ]
      refine (ih.evalZ args sig.params st Gs S hlen hargs hok).bind fun vs s1 S1 g1 hok1 ⟨hvl, hvs⟩ => ?_
      obtain ⟨hnb, fd, hfd⟩ := hp.defined name sig hphi
      obtain ⟨hvar, hpl, hbody, hret⟩ := hp.typed name sig fd hphi hfd hvn
      have hnl : ¬ vs.length < fd.params.length := by omega
      simp only [callBuiltin_none ops ext name vs s1 hnb, hfd, hnl, if_false]
      have hcs : calleeState fd vs s1 = bindParams fd.params vs { s1 with locals := [[]] } := by
        simp [calleeState, hvar]
      exact callUser_sound ih hok1 (.refl S1)
        (hcs ▸ bindParams_ok Gg fd.params sig.params vs _ [] ⟨.cons .nil .nil, hok1.global, hok1.heap⟩ hpl (Nat.le_of_eq hvl.symm) hvs)
        hbody hret
    case builtin =>
      intro name args sig tys st Gs S hsig hle hfix hlen hargs hpred hok
      rw [evalCall_succ]
      refine (ih.evalZ args tys st Gs S hlen hargs hok).bind fun vs s1 S1 _ hok1 ⟨hvl, hvs⟩ => ?_
      obtain ⟨hnt, r, hcb, hgood⟩ := builtin_ok ops ext Gg hx hg name sig tys vs s1 S1 hsig (by omega) (fun h => by have := hfix h; omega)
        ⟨hvl, hvs⟩ hpred hok1.heap hok1.global
      simp only [hcb, hnt, if_false]
      cases r with
      | err o s2 => exact hgood
      | ok v s2 =>
        obtain ⟨S2, g2, hk2, hgl2, hl2, hv2⟩ := hgood
        exact ⟨S2, g2, ⟨hl2 ▸ hok1.locals.mono g2, hgl2, hk2⟩, hv2⟩
    case test =>
      intro args st Gs S hargs hok
      rw [evalCall_succ]
      refine (ih.evalL args st Gs S .any hargs hok).bind fun vs s1 S1 _ hok1 hvs => ?_
      obtain ⟨r, hcb, hr⟩ := bi_test ops ext vs s1 hvs
      simp only [hcb, ofList_lit, if_true]
      rcases hr with rfl | rfl | rfl
      · exact .pure (hok1.same Gg rfl rfl rfl) trivial
      · simp only [testBook, if_true]
        split
        · exact rfl
        · exact .pure (hok1.same Gg rfl rfl rfl) trivial
      · exact trivial
    case print =>
      intro args st Gs S hargs hok
      rw [evalCall_succ]
      refine (ih.evalA args st Gs S hargs hok).bind fun vs s1 S1 _ hok1 _ => ?_
      have hnt : ¬ (String.ofList (lit "print") = "test") := by decide
      simp only [callBuiltin_print, hnt, if_false]
      cases joinVals ops s1 vs [' '] with
      | none => exact trivial
      | some str => exact .pure (hok1.same Gg rfl rfl rfl) trivial
    case execS =>
      intro ρ s st0 Gs Gs' S hty hok0
      rw [execS_succ]
      refine hok0.tickR trivial fun st hok => ?_
      cases hty with
      | noop => exact .normal Gg ρ hok (.refl S)
      | brk => exact ⟨S, Gs, .refl S, hok, rfl, rfl, nofun, trivial⟩
      | declLocal h rest nm e t hne hte =>
        refine (ih.evalE e st _ S t hte hok).bindS fun v s1 S1 g1 hok1 hv1 => ?_
        exact ⟨S1, senvSet h nm t :: rest, .refl S1, hok1.setVar Gg hne hv1, rfl, rfl, fun _ => rfl, trivial⟩
      | declGlobal nm e t hne hg hte =>
        refine (ih.evalE e st _ S t hte hok).bindS fun v s1 S1 g1 hok1 hv1 => ?_
        have hl := hok1.locals
        cases hl' : s1.locals with
        | cons sc scs => rw [hl'] at hl; cases hl
        | nil =>
          simp only [setVar, hne, if_false, hl']
          exact .normal Gg ρ ⟨.nil, hok1.global.set nm v (fun t' ht' => by cases hg.symm.trans ht'; exact hv1),
            hok1.heap⟩ (.refl S1)
      | assignVar _ nm e t hlk hte =>
        have hne := lookupG_ne_underscore Gg hlk
        refine (ih.evalE e st _ S t hte hok).bindS fun v s1 S1 g1 hok1 hv1 => ?_
        simp only [updateVar, hne, if_false]
        simp only [lookupG, hne, if_false] at hlk
        have hu := hok1.locals.update nm v t hv1
        cases hf : List.findSome? (fun s => senvGet s nm) Gs with
        | some t' =>
          rw [hf] at hlk; cases hlk
          obtain ⟨l', hl', hokl⟩ := hu.1 hf
          rw [hl']
          exact .normal Gg ρ ⟨hokl, hok1.global, hok1.heap⟩ (.refl S1)
        | none =>
          rw [hf] at hlk; simp only at hlk
          rw [hu.2 hf]
          by_cases hs : (scopeGet s1.global nm).isSome = true
          · simp only [hs, if_true]
            exact .normal Gg ρ ⟨hok1.locals, hok1.global.set nm v (fun t' ht' => by cases hlk.symm.trans ht'; exact hv1), hok1.heap⟩ (.refl S1)
          · simp only [hs]
            exact trivial
      | assignIdxArr _ l i e s hl hi hte =>
        refine (ih.evalE e st _ S s hte hok).bindS fun v s1 S1 g1 hok1 hv1 => ?_
        refine (ih.evalE l s1 _ S1 _ hl hok1).bindS fun left s2 S2 g2 hok2 hv2 => ?_
        refine (ih.evalE i s2 _ S2 _ hi hok2).bindS fun idx s3 S3 g3 hok3 hv3 => ?_
        obtain ⟨a, rfl, ha⟩ := (hv2.mono g3).arr_inv
        obtain ⟨iv, rfl⟩ := hv3.num_inv
        obtain ⟨es, hes, hest⟩ := hok3.heap.arr a s ha
        simp only [storeIndex, heapGet, hes]
        cases hsi : setIndexList ops es iv v with
        | error er => cases er <;> exact trivial
        | ok o =>
          cases o with
          | none => exact absurd hsi (setIndex_never_gopanic ops es iv v)
          | some es' =>
            exact .normal Gg ρ ⟨hok3.locals, hok3.global, hok3.heap.set ha
              ⟨es', rfl, setIndex_typed ops es es' iv v hest ((hv1.mono g2).mono g3) hsi⟩⟩ (.refl S3)
      | assignIdxMap _ l i e s hl hi hte =>
        refine (ih.evalE e st _ S s hte hok).bindS fun v s1 S1 g1 hok1 hv1 => ?_
        refine (ih.evalE l s1 _ S1 _ hl hok1).bindS fun left s2 S2 g2 hok2 hv2 => ?_
        refine (ih.evalE i s2 _ S2 _ hi hok2).bindS fun idx s3 S3 g3 hok3 hv3 => ?_
        obtain ⟨a, rfl, ha⟩ := (hv2.mono g3).map_inv
        obtain ⟨k, rfl⟩ := hv3.str_inv
        obtain ⟨m, hm, hmt⟩ := hok3.heap.map a s ha
        simp only [storeIndex, heapGet, hm]
        exact .normal Gg ρ ⟨hok3.locals, hok3.global, hok3.heap.set ha
          ⟨_, rfl, setKey_typed m k v hmt ((hv1.mono g2).mono g3)⟩⟩ (.refl S3)
      | assignDot _ l key e s hl hte =>
        refine (ih.evalE e st _ S s hte hok).bindS fun v s1 S1 g1 hok1 hv1 => ?_
        refine (ih.evalE l s1 _ S1 _ hl hok1).bindS fun left s2 S2 g2 hok2 hv2 => ?_
        obtain ⟨a, rfl, ha⟩ := hv2.map_inv
        obtain ⟨m, hm, hmt⟩ := hok2.heap.map a s ha
        simp only [heapGet, hm]
        exact .normal Gg ρ ⟨hok2.locals, hok2.global, hok2.heap.set ha ⟨_, rfl, setKey_typed m key v hmt (hv1.mono g2)⟩⟩ (.refl S2)
      | retNone _ hr => exact ⟨S, Gs, .refl S, hok, rfl, rfl, nofun, hr⟩
      | retSome _ e t hr hte =>
        exact (ih.evalE e st _ S t hte hok).bindS fun v s1 S1 g1 hok1 hv1 => ⟨S1, Gs, .refl S1, hok1, rfl, rfl, nofun, t, hr, hv1⟩
      | ifS _ conds els hc hb he => exact (ih.execI ρ conds els st Gs S hc hb he hok).toS Gg ρ
      | whileS _ c body hc hb => exact (ih.execW ρ c body st Gs S hc hb hok).toS Gg ρ
      | forStep _ lv lvTy start stop step body hlv hstart hstop hstep hbody =>
        refine for_case ih hlv hbody ?_
        simp only [newRange]
        refine (ih.numOr start ops.zero (pushScope st) _ S (fun x hx' => (hstart x hx').inner Φ Gg) (hok.push Gg)).bind
          fun a s1 S1 g1 hok1 _ => ?_
        refine (ih.numOr (some stop) ops.zero s1 _ S1 (fun x hx' => Option.some.inj hx' ▸ hstop.inner Φ Gg) hok1).bind
          fun b s2 S2 g2 hok2 _ => ?_
        refine (ih.numOr step ops.one s2 _ S2 (fun x hx' => (hstep x hx').inner Φ Gg) hok2).bind fun c s3 S3 g3 hok3 _ => ?_
        split
        · exact trivial
        · exact .pure (loop_scope_ok Gg hok3 lv .num hlv (.num ops.zero) (.num _)) rfl
      | forArr _ lv lvTy e s body hlv hlt he hbody =>
        refine for_case ih hlv hbody ?_
        simp only [newRange]
        refine (ih.evalE e (pushScope st) _ S (.arr s) (he.inner Φ Gg) (hok.push Gg)).bind fun v s1 S1 g1 hok1 hv1 => ?_
        obtain ⟨a, rfl, ha⟩ := hv1.arr_inv
        cases lv with
        | none => exact .pure hok1 ha
        | some nm =>
          cases hlt nofun
          obtain ⟨S2, g2, hk2, hz, zl, zg⟩ := zeroVal_typed ops hok1.heap lvTy (hok1.heap.reg_arr ha)
          exact ⟨S2, g2, loop_scope_ok Gg (hok1.mono g2 hk2 zl zg) (some nm) lvTy hlv _ hz, g2.get ha⟩
      | forStr _ lv lvTy e body hlv he hbody =>
        refine for_case ih hlv hbody ?_
        simp only [newRange]
        refine (ih.evalE e (pushScope st) _ S .str (he.inner Φ Gg) (hok.push Gg)).bind fun v s1 S1 g1 hok1 hv1 => ?_
        obtain ⟨cs, rfl⟩ := hv1.str_inv
        exact .pure (loop_scope_ok Gg hok1 lv .str hlv (.str []) (.str _)) rfl
      | forMap _ lv lvTy e s body hlv he hbody =>
        refine for_case ih hlv hbody ?_
        simp only [newRange]
        refine (ih.evalE e (pushScope st) _ S (.map s) (he.inner Φ Gg) (hok.push Gg)).bind fun v s1 S1 g1 hok1 hv1 => ?_
        obtain ⟨a, rfl, ha⟩ := hv1.map_inv
        obtain ⟨m, hm, _⟩ := hok1.heap.map a s ha
        simp only [heapGet, hm]
        exact .pure (loop_scope_ok Gg hok1 lv .str hlv (.str []) (.str _)) rfl
      | callBi _ name args sig tys hsig hle hfix hlen hargs hpred =>
        exact (ih.builtin name args sig tys st Gs S hsig hle hfix hlen hargs hpred hok).dropS
      | callTest _ args hargs =>
        exact (ih.test args st Gs S hargs hok).dropS
      | callFnV _ name args sig tv hphi hv hargs =>
        exact (ih.callV name args sig tv st Gs S hphi hv hargs hok).dropS
      | callFn _ name args sig hphi hvn hlen hargs =>
        exact (ih.call name args sig st Gs S hphi hvn hlen hargs hok).dropS
      | print _ args hargs =>
        exact (ih.print args st Gs S hargs hok).dropS
    case execB =>
      intro ρ b st Gs S hty hok
      rw [execStmts_succ]
      cases hty with
      | nil => exact ⟨S, Gs, .refl S, hok, rfl, rfl, trivial⟩
      | cons _ Gs' s rest hs hrest =>
        refine (ih.execS ρ s st Gs Gs' S hs hok).bindB fun c s1 S1 Gx _ hok1 _ _ hn hc => ?_
        cases c with
        | normal => cases hn rfl; exact ih.execB ρ rest s1 Gs' S1 hrest hok1
        | _ => exact ⟨S1, Gx, .refl S1, hok1, rfl, rfl, hc⟩
    case execN =>
      intro ρ b st0 Gs S hty hok0
      rw [execBlockNode_succ]
      exact hok0.tickR trivial fun st hok => ih.execB ρ b st Gs S hty hok
    case execC =>
      intro ρ c body st Gs S hc hb hok
      rw [execCond_succ]
      refine (ih.evalE c (pushScope st) _ S .bool (hc.inner Φ Gg) (hok.push Gg)).elim (fun _ _ h => h) fun v s1 S1 g1 hok1 hv1 => ?_
      obtain ⟨bv, rfl⟩ := hv1.bool_inv
      cases bv with
      | false => exact ⟨S1, g1, hok1.pop Gg rfl (by simp), trivial⟩
      | true =>
        simp only [Res.bind_ok]
        exact (ih.execN ρ body s1 ([] :: Gs) S1 hb hok1).elim (fun _ _ h => h) fun c2 s2 S2 Gx g2 hok2 ht hlen hc2 =>
          ⟨S2, g1.trans g2, hok2.pop Gg (by simpa using ht) (by simpa using hlen), hc2⟩
    case execI =>
      intro ρ conds els st Gs S hc hb he hok
      rw [execIfChain_succ]
      match conds, els, hc, hb, he with
      | [], none, _, _, _ => exact .pure hok trivial
      | [], some body, _, _, he => exact (ih.execN ρ body (pushScope st) ([] :: Gs) S (he body rfl) (hok.push Gg)).pop
      | (c, body) :: rest, els, hc, hb, he =>
        obtain ⟨hc1, hcr⟩ := List.forall_mem_cons.mp hc
        obtain ⟨hb1, hbr⟩ := List.forall_mem_cons.mp hb
        refine (ih.execC ρ c body st Gs S hc1 hb1 hok).bindK fun comp taken s1 S1 _ hok1 hcomp => ?_
        cases taken with
        | true => exact .pure hok1 hcomp
        | false => exact ih.execI ρ rest els s1 Gs S1 hcr hbr he hok1
    case execW =>
      intro ρ c body st Gs S hc hb hok
      rw [execWhile_succ]
      refine (ih.execC ρ c body st Gs S hc hb hok).bindK fun comp taken s1 S1 _ hok1 hcomp => ?_
      cases taken with
      | false => cases comp <;> exact .pure hok1 trivial
      | true =>
        cases comp with
        | brk => exact .pure hok1 trivial
        | ret v => exact .pure hok1 hcomp
        | normal => exact ih.execW ρ c body s1 Gs S1 hc hb hok1
    case execF =>
      intro ρ lv t r body st Gs S hlv hr hb hok
      rw [execForLoop_succ]
      cases hn : rangerNext ops st r with
      | none => exact .pure hok trivial
      | some p =>
        obtain ⟨v, r'⟩ := p
        obtain ⟨hv, hr'⟩ := rangerNext_typed ops hok.heap r r' t v hr hn
        have hupd : ∃ st1, updateVar st (match lv with | some n => n | none => underscore) v = some st1 ∧
            StOk S (loopScope lv t :: Gs) Gg st1 := by
          cases lv with
          | none => exact ⟨st, by simp [updateVar], hok⟩
          | some nm =>
            have hne := hlv nm rfl
            obtain ⟨l', hl', hokl⟩ := (hok.locals.update nm v t hv).1 (by simp [loopScope, senvGet, List.lookup])
            exact ⟨{ st with locals := l' }, by simp only [updateVar, hne, if_false, hl'], ⟨hokl, hok.global, hok.heap⟩⟩
        obtain ⟨st1, hu1, hok1⟩ := hupd
        simp only [hu1]
        refine (ih.execN ρ body (pushScope st1) _ S hb (hok1.push Gg)).pop.bind fun c2 s2 S2 g2 hok2 hc2 => ?_
        cases c2 with
        | brk => exact .pure hok2 trivial
        | ret rv => exact .pure hok2 hc2
        | normal => exact ih.execF ρ lv t r' body s2 Gs S2 hlv (hr'.mono g2) hb hok2

/-- **type soundness, expressions** (calls included): a well-typed expression evaluated for any number of steps in a
well-typed state yields a value of its static type in a well-typed state, or ends in a documented outcome -/
theorem expr_sound (hx : ExtOk ext) (hg : GgOk Gg) (hp : ProgOk Φ Gg prog) (fuel : Nat) (e : Expr F) (st : St F) (Gs : List SEnv) (S : Store) (t : Ty)
    (hty : Typed Φ (lookupG Gs Gg) e t) (hok : StOk S Gs Gg st) :
    match evalE ops ext prog fuel e st with
    | .ok v st' => ∃ S', Grows S S' ∧ StOk S' Gs Gg st' ∧ VT S' v t
    | .err o _ => Doc o := by
  exact ((all_sound ops ext prog Φ Gg hx hg hp fuel).evalE e st Gs S t hty hok).elim (fun _ _ h => h)
    fun _ _ S1 g hok1 hv => ⟨S1, g, hok1, hv⟩

/-- **type soundness, statements**: a well-typed statement list ends in a well-typed state (outer scopes as typed, a
returned value of the result type) or in a documented outcome -/
theorem stmt_sound (hx : ExtOk ext) (hg : GgOk Gg) (hp : ProgOk Φ Gg prog) (fuel : Nat) (ρ : Option Ty) (b : List (Stmt F)) (st : St F)
    (Gs : List SEnv) (S : Store) (hty : BTyped Φ Gg ρ Gs b) (hok : StOk S Gs Gg st) :
    match execStmts ops ext prog fuel b st with
    | .ok c st' => ∃ S' Gx, Grows S S' ∧ StOk S' Gx Gg st' ∧ Gx.tail = Gs.tail ∧ Gx.length = Gs.length ∧ ComplOk S' ρ c
    | .err o _ => Doc o := by
  exact ((all_sound ops ext prog Φ Gg hx hg hp fuel).execB ρ b st Gs S hty hok).elim (fun _ _ h => h)
    fun _ _ S1 Gx g hok1 ht hlen hc => ⟨S1, Gx, g, hok1, ht, hlen, hc⟩

/-- **type soundness, calls**: a call of a user-defined function on arguments of the parameter types returns a value
of the result type, if there is one (it cannot fall off the end of the body), and leaves the caller's scopes as
they were -/
theorem call_sound (hx : ExtOk ext) (hg : GgOk Gg) (hp : ProgOk Φ Gg prog) (fuel : Nat) (name : Str) (args : List (Expr F)) (sig : FSig)
    (st : St F) (Gs : List SEnv) (S : Store) (hphi : Φ name = some sig) (hvn : sig.variadic = none) (hlen : args.length = sig.params.length)
    (hargs : ∀ (i : Nat) a pt, args[i]? = some a → sig.params[i]? = some pt → Typed Φ (lookupG Gs Gg) a pt)
    (hok : StOk S Gs Gg st) :
    match evalCall ops ext prog fuel name args st with
    | .ok v st' => ∃ S', Grows S S' ∧ StOk S' Gs Gg st' ∧ ∀ t, sig.ret = some t → VT S' v t
    | .err o _ => Doc o := by
  exact ((all_sound ops ext prog Φ Gg hx hg hp fuel).call name args sig st Gs S hphi hvn hlen hargs hok).elim (fun _ _ h => h)
    fun _ _ S1 g hok1 hv => ⟨S1, g, hok1, hv⟩

/-- **accepted programs never go wrong** (for the typed fragment of the model): the top-level statements of a
well-typed program never end with an internal error (other than the documented failed test under fail-fast) or a
Go panic, for any number of steps, any oracle and any state that is well-typed for the program's globals -/
theorem program_never_goes_wrong (hx : ExtOk ext) (hg : GgOk Gg) (hp : ProgOk Φ Gg prog) (fuel : Nat) (st st' : St F) (S : Store)
    (hty : BTyped Φ Gg none [] prog.stmts) (hok : StOk S [] Gg st) (w : String) :
    (w ≠ "ErrTest" → execStmts ops ext prog fuel prog.stmts st ≠ .err (.internal w) st') ∧
    execStmts ops ext prog fuel prog.stmts st ≠ .err (.goPanic w) st' := by
  have h := stmt_sound ops ext prog Φ Gg hx hg hp fuel none prog.stmts st [] S hty hok
  exact ⟨fun hw hq => by rw [hq] at h; exact hw h, fun hq => by rw [hq] at h; exact h⟩

theorem expr_never_goes_wrong (hx : ExtOk ext) (hg : GgOk Gg) (hp : ProgOk Φ Gg prog) (fuel : Nat) (e : Expr F) (st st' : St F) (Gs : List SEnv)
    (S : Store) (t : Ty) (hty : Typed Φ (lookupG Gs Gg) e t) (hok : StOk S Gs Gg st) (w : String) :
    (w ≠ "ErrTest" → evalE ops ext prog fuel e st ≠ .err (.internal w) st') ∧ evalE ops ext prog fuel e st ≠ .err (.goPanic w) st' := by
  have h := expr_sound ops ext prog Φ Gg hx hg hp fuel e st Gs S t hty hok
  exact ⟨fun hw hq => by rw [hq] at h; exact hw h, fun hq => by rw [hq] at h; exact h⟩

theorem payload_typed {S : Store} {t : Ty} {v : Val F} (h : payloadOk t v = true) : VT S v t := by
  unfold payloadOk at h
  split at h
  · exact .num _
  · exact .str _
  · exact .bool _
  · cases h

/-- the program's event handlers are well-typed: the body in the scope of the parameters -/
def HandlersOk (prog : Program F) : Prop :=
  ∀ h ∈ prog.handlers, BTyped Φ Gg none [paramScope (h.params.map Prod.fst) (h.params.map Prod.snd) []] h.body

/-- **type soundness, event handlers**: delivering any payload to a well-typed handler ends in a well-typed state with
the caller's scopes restored, or in a documented outcome (a payload of the wrong type is the conversion panic);
a Go panic only if the platform breaks its contract (no such handler, payload too short) -/
theorem handler_sound (hx : ExtOk ext) (hg : GgOk Gg) (hp : ProgOk Φ Gg prog) (hh : HandlersOk Φ Gg prog)
    (fuel : Nat) (name : Str) (payload : List (Val F)) (st : St F) (Gs : List SEnv) (S : Store)
    (hok : StOk S Gs Gg st) (h : Handler F) (hfind : prog.handlers.find? (fun h => h.name == name) = some h)
    (hlen : h.params.length ≤ payload.length) :
    match (handleEvent ops ext prog fuel name payload st).1 with
    | .err o => Doc o
    | _ => ∃ S', Grows S S' ∧ StOk S' Gs Gg (handleEvent ops ext prog fuel name payload st).2 := by
  rw [handleEvent_eq, hfind]
  simp only [Nat.not_lt.mpr hlen, if_false]
  by_cases hf : fits h.params payload = true
  · rw [if_pos hf]
    obtain ⟨hl, hv⟩ := fits_spec h.params payload hf
    have hokc : StOk S [paramScope (h.params.map Prod.fst) (h.params.map Prod.snd) []] Gg (calleeState (C15.asProc h name) payload st) :=
      bindParams_ok Gg _ (h.params.map Prod.snd) payload _ [] ⟨.cons .nil .nil, hok.global, hok.heap⟩ (by simp) (by simpa using hl)
        fun i v t h1 h2 => payload_typed (hv i v t h1 h2)
    exact (callUser_sound (all_sound ops ext prog Φ Gg hx hg hp fuel) hok (.refl S) hokc (hh h (List.mem_of_find?_eq_some hfind)) nofun).elim
      (fun _ _ h => h) fun _ _ S1 g hok1 _ => ⟨S1, g, hok1⟩
  · rw [if_neg hf]; exact trivial

end EvyV.TS
