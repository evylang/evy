import EvyV.Spec.WellTyped
import EvyV.Props.C11
import EvyV.Lemmas.MapVal
/-! C02: store typing, canonical forms, and operators, indexing and slicing on values of the right types. -/
namespace EvyV.TS

variable {F : Type} (ops : NumOps F) (ext : Ext F)

theorem Grows.refl (S : Store) : Grows S S := ⟨[], by simp⟩
theorem Grows.trans {S S' S'' : Store} (a : Grows S S') (b : Grows S' S'') : Grows S S'' := by
  obtain ⟨x, rfl⟩ := a; obtain ⟨y, rfl⟩ := b; exact ⟨x ++ y, by simp⟩
theorem Grows.snoc (S : Store) (t : Ty) : Grows S (S ++ [t]) := ⟨[t], rfl⟩

theorem Grows.get {S S' : Store} (g : Grows S S') {a : Nat} {t : Ty} (h : S[a]? = some t) : S'[a]? = some t := by
  obtain ⟨x, rfl⟩ := g
  rw [List.getElem?_append_left (List.getElem?_eq_some_iff.mp h).1]; exact h

theorem VT.mono {S S' : Store} (g : Grows S S') {v : Val F} {t : Ty} (h : VT S v t) : VT S' v t := by
  induction h with
  | num v => exact .num v
  | str s => exact .str s
  | bool b => exact .bool b
  | any t v hne _ ih => exact .any t v hne ih
  | arr a t h => exact .arr a t (g.get h)
  | map a t h => exact .map a t (g.get h)

theorem EnvOk.mono {S S' : Store} (g : Grows S S') {G : Env} {st : St F} (h : EnvOk S G st) : EnvOk S' G st :=
  fun n t v hg hv => (h n t v hg hv).mono g

theorem EnvOk.same {S : Store} {G : Env} {st st' : St F} (h : EnvOk S G st)
    (hl : st'.locals = st.locals) (hg : st'.global = st.global) : EnvOk S G st' := by
  intro n t v hG hv
  refine h n t v hG ?_
  simpa [getVar, hl, hg] using hv

theorem HeapOk.reg_of {S : Store} {H : Array (Obj F)} (hk : HeapOk S H) {v : Val F} {t : Ty} (h : VT S v t) : Reg t = true := by
  induction h with
  | arr a t h | map a t h => exact hk.reg _ (List.mem_of_getElem? h)
  | _ => rfl

theorem HeapOk.reg_arr {S : Store} {H : Array (Obj F)} (hk : HeapOk S H) {a : Nat} {s : Ty} (h : S[a]? = some (.arr s)) : Reg s = true :=
  hk.reg (.arr s) (List.mem_of_getElem? h)

theorem HeapOk.reg_map {S : Store} {H : Array (Obj F)} (hk : HeapOk S H) {a : Nat} {s : Ty} (h : S[a]? = some (.map s)) : Reg s = true :=
  hk.reg (.map s) (List.mem_of_getElem? h)

theorem HeapOk.empty : HeapOk (F := F) [] #[] :=
  ⟨rfl, nofun, fun _ _ h => (nomatch h), fun _ _ h => (nomatch h)⟩

def ObjOk (S : Store) (o : Obj F) : Ty → Prop
  | .arr s => ∃ es, o = .arr es ∧ ∀ v ∈ es, VT S v s
  | .map s => ∃ m, o = .map m ∧ ∀ p ∈ m.pairs, VT S p.2 s
  | _ => True

theorem ObjOk.mono {S S' : Store} (g : Grows S S') {o : Obj F} {t : Ty} (h : ObjOk S o t) : ObjOk S' o t := by
  cases t with
  | arr s => obtain ⟨es, e, h⟩ := h; exact ⟨es, e, fun v hv => (h v hv).mono g⟩
  | map s => obtain ⟨m, e, h⟩ := h; exact ⟨m, e, fun p hp => (h p hp).mono g⟩
  | _ => trivial

theorem heapOk_iff {S : Store} {H : Array (Obj F)} : HeapOk S H ↔
    S.length = H.size ∧ (∀ t ∈ S, Reg t = true) ∧ ∀ (a : Nat) t o, S[a]? = some t → H[a]? = some o → ObjOk S o t := by
  constructor
  · intro ⟨hs, hr, ha, hm⟩
    refine ⟨hs, hr, fun a t o h1 h2 => ?_⟩
    cases t with
    | arr s => obtain ⟨es, e, h⟩ := ha a s h1; exact ⟨es, Option.some.inj (h2.symm.trans e), h⟩
    | map s => obtain ⟨m, e, h⟩ := hm a s h1; exact ⟨m, Option.some.inj (h2.symm.trans e), h⟩
    | _ => trivial
  · intro ⟨hs, hr, h⟩
    have ex : ∀ (a : Nat) t, S[a]? = some t → ∃ o, H[a]? = some o ∧ ObjOk S o t := fun a t h1 =>
      have hlt : a < H.size := hs ▸ (List.getElem?_eq_some_iff.mp h1).1
      ⟨H[a], Array.getElem?_eq_getElem hlt, h a t _ h1 (Array.getElem?_eq_getElem hlt)⟩
    refine ⟨hs, hr, fun a s h1 => ?_, fun a s h1 => ?_⟩
    · obtain ⟨o, e, es, rfl, h⟩ := ex a _ h1; exact ⟨es, e, h⟩
    · obtain ⟨o, e, m, rfl, h⟩ := ex a _ h1; exact ⟨m, e, h⟩

theorem HeapOk.push {S : Store} {H : Array (Obj F)} (hk : HeapOk S H) {t : Ty} (ht : Reg t = true) {o : Obj F} (ho : ObjOk S o t) :
    HeapOk (S ++ [t]) (H.push o) ∧ (S ++ [t])[H.size]? = some t := by
  obtain ⟨hs, hr, h⟩ := heapOk_iff.mp hk
  have g := Grows.snoc S t
  refine ⟨heapOk_iff.mpr ⟨by simp [hs], fun t' ht' => ?_, fun a t' o' h1 h2 => ?_⟩, by simp [← hs]⟩
  · rcases List.mem_append.mp ht' with h' | h'
    · exact hr t' h'
    · cases List.mem_singleton.mp h'; exact ht
  · rw [Array.getElem?_push] at h2
    split at h2
    · cases h2; rename_i e; subst e
      rw [← hs, List.getElem?_concat_length] at h1; cases h1
      exact ho.mono g
    · have hlt : a < S.length := by
        have := (Array.getElem?_eq_some_iff.mp h2).1; omega
      rw [List.getElem?_append_left hlt] at h1
      exact (h a t' o' h1 h2).mono g

theorem HeapOk.set {S : Store} {H : Array (Obj F)} (hk : HeapOk S H) {a : Nat} {t : Ty} (ha : S[a]? = some t) {o : Obj F}
    (ho : ObjOk S o t) : HeapOk S (H.setIfInBounds a o) := by
  obtain ⟨hs, hr, h⟩ := heapOk_iff.mp hk
  refine heapOk_iff.mpr ⟨by simp [hs], hr, fun b t' o' h1 h2 => ?_⟩
  by_cases hab : a = b
  · subst hab
    have hlt : a < H.size := hs ▸ (List.getElem?_eq_some_iff.mp ha).1
    rw [Array.getElem?_setIfInBounds_self_of_lt hlt] at h2
    cases h2; cases ha.symm.trans h1; exact ho
  · rw [Array.getElem?_setIfInBounds_ne hab] at h2
    exact h b t' o' h1 h2

theorem VT.num_inv {S : Store} {v : Val F} (h : VT S v .num) : ∃ x, v = .num x := by cases h; exact ⟨_, rfl⟩
theorem VT.str_inv {S : Store} {v : Val F} (h : VT S v .str) : ∃ x, v = .str x := by cases h; exact ⟨_, rfl⟩
theorem VT.bool_inv {S : Store} {v : Val F} (h : VT S v .bool) : ∃ x, v = .bool x := by cases h; exact ⟨_, rfl⟩
theorem VT.any_inv {S : Store} {v : Val F} (h : VT S v .any) : ∃ t w, v = .any t w ∧ t ≠ .any ∧ VT S w t := by
  cases h with | any t w hne hw => exact ⟨t, w, rfl, hne, hw⟩
theorem VT.arr_inv {S : Store} {v : Val F} {s : Ty} (h : VT S v (.arr s)) : ∃ a, v = .arr a ∧ S[a]? = some (.arr s) := by
  cases h with | arr a _ h => exact ⟨a, rfl, h⟩
theorem VT.map_inv {S : Store} {v : Val F} {s : Ty} (h : VT S v (.map s)) : ∃ a, v = .map a ∧ S[a]? = some (.map s) := by
  cases h with | map a _ h => exact ⟨a, rfl, h⟩

/-- left inverse of `Ty.chain` (whose numerals these are) on the types of values; `[3]`, `any`, is the last case -/
def ofChain : List Nat → Ty
  | 4 :: c => .arr (ofChain c)
  | 5 :: c => .map (ofChain c)
  | [0] => .num | [1] => .str | [2] => .bool
  | _ => .any

theorem ofChain_chain : ∀ t : Ty, Reg t = true → ofChain t.chain = t
  | .arr s, h => by simp only [Ty.chain, ofChain, ofChain_chain s h]
  | .map s, h => by simp only [Ty.chain, ofChain, ofChain_chain s h]
  | .num, _ | .str, _ | .bool, _ | .any, _ => rfl

/-- `Type.Equals` compares name chains; on the types of values the chain determines the type -/
theorem equals_eq {t t' : Ty} (h : Reg t = true) (h' : Reg t' = true) (e : t.equals t' = true) : t = t' := by
  rw [← ofChain_chain t h, ← ofChain_chain t' h', show t.chain = t'.chain by simpa [Ty.equals] using e]

theorem lookup_mem {α : Type} (k : Key) (l : List (Key × α)) (v : α) (h : List.lookup k l = some v) : (k, v) ∈ l := by
  obtain ⟨l1, l2, rfl, _⟩ := List.lookup_eq_some_iff.mp h; simp

theorem get_typed {S : Store} {s : Ty} (m : MapVal (Val F)) (hm : ∀ p ∈ m.pairs, VT S p.2 s) (k : Key) (v : Val F)
    (h : m.get k = some v) : VT S v s :=
  hm (k, v) (lookup_mem k m.pairs v (by simpa [MapVal.get, GoMap.get?] using h))

theorem equals_ok {S : Store} {H : Array (Obj F)} (hk : HeapOk S H) (fuel : Nat) :
    (∀ v w t, VT S v t → VT S w t → valEquals ops H fuel v w ≠ .goPanic) ∧
    (∀ xs ys s, (∀ v ∈ xs, VT S v s) → (∀ v ∈ ys, VT S v s) → listEquals ops H fuel xs ys ≠ .goPanic) ∧
    (∀ ps (m2 : MapVal (Val F)) s, (∀ p ∈ ps, VT S p.2 s) → (∀ p ∈ m2.pairs, VT S p.2 s) →
      pairsEquals ops H fuel ps m2 ≠ .goPanic) := by
  induction fuel with
  | zero => refine ⟨?_, ?_, ?_⟩ <;> intros <;> simp [valEquals, listEquals, pairsEquals]
  | succ n ih =>
    obtain ⟨ihV, ihL, ihP⟩ := ih
    refine ⟨?_, ?_, ?_⟩
    · intro v w t hv hw
      cases hv with
      | num a => cases hw; simp only [valEquals]; split <;> simp
      | str a => cases hw; simp only [valEquals]; split <;> simp
      | bool a => cases hw; simp only [valEquals]; split <;> simp
      | any t1 v1 hne1 h1 =>
        cases hw with
        | any t2 v2 hne2 h2 =>
          simp only [valEquals]
          split
          · rename_i he
            have := equals_eq (hk.reg_of h1) (hk.reg_of h2) he
            subst this
            exact ihV _ _ _ h1 h2
          · simp
      | arr a s ha =>
        cases hw with
        | arr b _ hb =>
          obtain ⟨xs, hx, hxs⟩ := hk.arr a s ha
          obtain ⟨ys, hy, hys⟩ := hk.arr b s hb
          simp only [valEquals, hx, hy]
          split
          · simp
          · exact ihL _ _ _ hxs hys
      | map a s ha =>
        cases hw with
        | map b _ hb =>
          obtain ⟨m, hx, hxs⟩ := hk.map a s ha
          obtain ⟨m2, hy, hys⟩ := hk.map b s hb
          simp only [valEquals, hx, hy]
          split
          · simp
          · exact ihP _ _ _ hxs hys
    · intro xs ys s hxs hys
      cases xs with
      | nil => simp [listEquals]
      | cons x xs =>
        cases ys with
        | nil => simp [listEquals]
        | cons y ys =>
          simp only [listEquals]
          have h1 := ihV x y s (hxs x List.mem_cons_self) (hys y List.mem_cons_self)
          split
          · exact ihL _ _ _ (fun v hv => hxs v (List.mem_cons_of_mem _ hv)) (fun v hv => hys v (List.mem_cons_of_mem _ hv))
          · exact h1
    · intro ps m2 s hps hm2
      cases ps with
      | nil => simp [pairsEquals]
      | cons p ps =>
        obtain ⟨k, v⟩ := p
        simp only [pairsEquals]
        split
        · simp
        · rename_i v2 hget
          have h1 := ihV v v2 s (hps (k, v) List.mem_cons_self) (get_typed m2 hm2 k v2 hget)
          split
          · exact ihP _ _ _ (fun p hp => hps p (List.mem_cons_of_mem _ hp)) hm2
          · exact h1

theorem set_typed {S : Store} {s : Ty} (m : GoMap (Val F)) (k : Key) (v : Val F) (hm : ∀ p ∈ m, VT S p.2 s) (hv : VT S v s) :
    ∀ p ∈ GoMap.set m k v, VT S p.2 s :=
  fun p hp => (GoMap.mem_set hp).elim (· ▸ hv) (hm p)

theorem foldl_set_typed {S : Store} {s : Ty} (ps : List (Key × Val F)) (hps : ∀ p ∈ ps, VT S p.2 s) :
    ∀ (acc : GoMap (Val F)), (∀ p ∈ acc, VT S p.2 s) → ∀ p ∈ ps.foldl (fun acc p => GoMap.set acc p.1 p.2) acc, VT S p.2 s := by
  induction ps with
  | nil => intro acc h; simpa using h
  | cons q rest ih =>
    intro acc h
    simp only [List.foldl_cons]
    exact ih (fun p hp => hps p (List.mem_cons_of_mem _ hp)) _ (set_typed acc q.1 q.2 h (hps q List.mem_cons_self))

theorem ofLiteral_typed {S : Store} {s : Ty} (ps : List (Key × Val F)) (hps : ∀ p ∈ ps, VT S p.2 s) :
    ∀ p ∈ (MapVal.ofLiteral ps).pairs, VT S p.2 s :=
  foldl_set_typed ps hps [] (by intro p hp; cases hp)

/-- a result is good: a value satisfying `P` in a well-typed state whose heap only grew and whose
variables are untouched, or a documented outcome -/
def Good {α : Type} (P : Store → α → Prop) (S : Store) (st : St F) : Res F α → Prop
  | .ok a st' => ∃ S', Grows S S' ∧ HeapOk S' st'.heap ∧ P S' a ∧ st'.locals = st.locals ∧ st'.global = st.global
  | .err o _ => Doc o

theorem Good.pure {α : Type} {P : Store → α → Prop} {S : Store} {st : St F} {a : α} (hk : HeapOk S st.heap) (hp : P S a) :
    Good P S st (.ok a st) :=
  ⟨S, .refl S, hk, hp, rfl, rfl⟩

theorem Good.trans {α : Type} {P : Store → α → Prop} {S S1 : Store} {st st1 : St F} {r : Res F α}
    (h : Good P S1 st1 r) (g : Grows S S1) (hl : st1.locals = st.locals) (hg : st1.global = st.global) : Good P S st r := by
  cases r with
  | err o s => exact h
  | ok a s =>
    obtain ⟨S', g', hk, hp, l, gl⟩ := h
    exact ⟨S', g.trans g', hk, hp, l.trans hl, gl.trans hg⟩

theorem Good.andThen {α β : Type} {P : Store → α → Prop} {Q : Store → β → Prop} {S : Store} {st s1 : St F} {a : α} {r : Res F β}
    (h : Good P S st (.ok a s1)) (k : ∀ S1, Grows S S1 → HeapOk S1 s1.heap → P S1 a → Good Q S1 s1 r) : Good Q S st r :=
  have ⟨S1, g, hk, hp, l, gl⟩ := h
  (k S1 g hk hp).trans g l gl

/-- `PV t`: a value of type `t`. Likewise in C02Full `PL s` (values of type `s`), `PP s` (pairs with such values),
`PO` (an optional number), `PA` (values of any types), `PR ρ` (a call's value); in C02Builtin `PZ ts` (one per type) -/
abbrev PV (t : Ty) : Store → Val F → Prop := fun S v => VT S v t

theorem Good.alloc_arr {S : Store} {st : St F} (hk : HeapOk S st.heap) {s : Ty} (hs : Reg s = true) {es : List (Val F)}
    (he : ∀ v ∈ es, VT S v s) : Good (PV (F := F) (.arr s)) S st (.ok (.arr (alloc st (.arr es)).1) (alloc st (.arr es)).2) :=
  have ⟨hk', h⟩ := hk.push (t := .arr s) hs ⟨es, rfl, he⟩
  ⟨_, .snoc S _, hk', .arr _ _ h, rfl, rfl⟩

theorem Good.alloc_map {S : Store} {st : St F} (hk : HeapOk S st.heap) {s : Ty} (hs : Reg s = true) {m : MapVal (Val F)}
    (he : ∀ p ∈ m.pairs, VT S p.2 s) : Good (PV (F := F) (.map s)) S st (.ok (.map (alloc st (.map m)).1) (alloc st (.map m)).2) :=
  have ⟨hk', h⟩ := hk.push (t := .map s) hs ⟨m, rfl, he⟩
  ⟨_, .snoc S _, hk', .map _ _ h, rfl, rfl⟩

theorem alloc_arr_typed {S : Store} {st : St F} (hk : HeapOk S st.heap) (s : Ty) (hs : Reg s = true) (es : List (Val F))
    (he : ∀ v ∈ es, VT S v s) :
    ∃ S', Grows S S' ∧ HeapOk S' (alloc st (.arr es)).2.heap ∧ VT S' (Val.arr (F := F) (alloc st (.arr es)).1) (.arr s) := by
  obtain ⟨S', g, hk', vt, _⟩ := Good.alloc_arr hk hs he
  exact ⟨S', g, hk', vt⟩

theorem deepCopy_typed (fuel : Nat) :
    (∀ (S : Store) (v w : Val F) (t : Ty) (st st' : St F), HeapOk S st.heap → VT S v t → deepCopy fuel v st = some (w, st') →
      Good (PV t) S st (.ok w st')) ∧
    (∀ (S : Store) (vs ws : List (Val F)) (t : Ty) (st st' : St F), HeapOk S st.heap → (∀ v ∈ vs, VT S v t) →
      deepCopyList fuel vs st = some (ws, st') → Good (fun S' ws => ∀ w ∈ ws, VT S' w t) S st (.ok ws st')) ∧
    (∀ (S : Store) (ps qs : List (Key × Val F)) (t : Ty) (st st' : St F), HeapOk S st.heap → (∀ p ∈ ps, VT S p.2 t) →
      deepCopyPairs fuel ps st = some (qs, st') → Good (fun S' qs => ∀ q ∈ qs, VT S' q.2 t) S st (.ok qs st')) := by
  induction fuel with
  | zero => refine ⟨?_, ?_, ?_⟩ <;> intro _ _ _ _ _ _ _ _ h <;> cases h
  | succ n ih =>
    obtain ⟨ihV, ihL, ihP⟩ := ih
    refine ⟨?_, ?_, ?_⟩
    · intro S v w t st st' hk hv h
      cases hv with
      | num x => cases h; exact .pure hk (.num x)
      | str x => cases h; exact .pure hk (.str x)
      | bool x => cases h; exact .pure hk (.bool x)
      | any t1 v1 hne h1 =>
        obtain ⟨⟨w1, s1⟩, hd, ⟨⟩⟩ := Option.map_eq_some_iff.mp h
        exact (ihV S v1 w1 t1 st _ hk h1 hd).andThen fun S1 _ hk1 hw1 => .pure hk1 (.any t1 w1 hne hw1)
      | arr a s ha =>
        obtain ⟨es, he, hes⟩ := hk.arr a s ha
        simp only [deepCopy, heapGet, he] at h
        split at h
        · cases h
          exact (ihL S es _ s st _ hk hes ‹_›).andThen fun S1 _ hk1 hws => .alloc_arr hk1 (hk.reg_arr ha) hws
        · cases h
      | map a s ha =>
        obtain ⟨m, he, hms⟩ := hk.map a s ha
        simp only [deepCopy, heapGet, he] at h
        split at h
        · cases h
          exact (ihP S m.pairs _ s st _ hk hms ‹_›).andThen fun S1 _ hk1 hqs =>
            .alloc_map (m := { pairs := _, order := m.order }) hk1 (hk.reg_map ha) hqs
        · cases h
    · intro S vs ws t st st' hk hvs h
      cases vs with
      | nil => cases h; exact .pure hk nofun
      | cons v rest =>
        simp only [deepCopyList] at h
        split at h
        · obtain ⟨⟨ws', s2⟩, hd2, ⟨⟩⟩ := Option.map_eq_some_iff.mp h
          exact (ihV S v _ t st _ hk (hvs v List.mem_cons_self) ‹_›).andThen fun S1 g1 hk1 hw =>
            (ihL S1 rest ws' t _ s2 hk1 (fun x hx => (hvs x (List.mem_cons_of_mem _ hx)).mono g1) hd2).andThen fun S2 g2 hk2 hws =>
              .pure hk2 (List.forall_mem_cons.mpr ⟨hw.mono g2, hws⟩)
        · cases h
    · intro S ps qs t st st' hk hps h
      cases ps with
      | nil => cases h; exact .pure hk nofun
      | cons p rest =>
        obtain ⟨k, v⟩ := p
        simp only [deepCopyPairs] at h
        split at h
        · obtain ⟨⟨qs', s2⟩, hd2, ⟨⟩⟩ := Option.map_eq_some_iff.mp h
          exact (ihV S v _ t st _ hk (hps (k, v) List.mem_cons_self) ‹_›).andThen fun S1 g1 hk1 hw =>
            (ihP S1 rest qs' t _ s2 hk1 (fun x hx => (hps x (List.mem_cons_of_mem _ hx)).mono g1) hd2).andThen fun S2 g2 hk2 hqs =>
              .pure hk2 (List.forall_mem_cons.mpr ⟨hw.mono g2, hqs⟩)
        · cases h

theorem replicate_typed (fuel : Nat) (s : Ty) : ∀ (k : Nat) (S : Store) (a : Nat) (st st' : St F) (es : List (Val F)),
    HeapOk S st.heap → S[a]? = some (.arr s) → replicateCopies k fuel (.arr a) st = some (es, st') →
    Good (fun S' es => ∀ v ∈ es, VT S' v s) S st (.ok es st')
  | 0, S, a, st, st', es, hk, _, h => by cases h; exact .pure hk nofun
  | k + 1, S, a, st, st', es, hk, ha, h => by
    simp only [replicateCopies] at h
    cases hd : deepCopy fuel (.arr a) st with
    | none => rw [hd] at h; cases h
    | some r =>
      obtain ⟨w, s1⟩ := r
      refine ((deepCopy_typed fuel).1 S (.arr a) w (.arr s) st s1 hk (.arr a s ha) hd).andThen fun S1 g1 hk1 hw1 => ?_
      obtain ⟨b, rfl, hb⟩ := hw1.arr_inv
      obtain ⟨cs, hc, hcs⟩ := hk1.arr b s hb
      simp only [hd, heapGet, hc] at h
      obtain ⟨⟨rest, s2⟩, hr, ⟨⟩⟩ := Option.map_eq_some_iff.mp h
      exact (replicate_typed fuel s k S1 a s1 s2 rest hk1 (g1.get ha) hr).andThen fun S2 g2 hk2 hrest =>
        .pure hk2 fun v hv => (List.mem_append.mp hv).elim (fun h' => (hcs v h').mono g2) (hrest v)

theorem sc_bool {op : Op} {v : Val F} (h : canShortCircuit op v = true) : isLogic op = true ∧ ∃ b, v = .bool b := by
  unfold canShortCircuit at h
  split at h
  · exact ⟨by simp [isLogic], _, rfl⟩
  · exact ⟨by simp [isLogic], _, rfl⟩
  · cases h

inductive OpTy : Op → Ty → Ty → Ty → Prop
  | arith {op : Op} : isArith op = true → OpTy op .num .num .num
  | cmpNum {op : Op} : isCmp op = true → OpTy op .num .num .bool
  | cmpStr {op : Op} : isCmp op = true → OpTy op .str .str .bool
  | concat : OpTy .plus .str .str .str
  | logic {op : Op} : isLogic op = true → OpTy op .bool .bool .bool
  | eq {op : Op} {t : Ty} : isEq op = true → OpTy op t t .bool
  | arrCat {s : Ty} : OpTy .plus (.arr s) (.arr s) (.arr s)
  | arrRep {s : Ty} : OpTy .asterisk (.arr s) .num (.arr s)

theorem OpTy.sc {op : Op} {tl tr t : Ty} (h : OpTy op tl tr t) {S : Store} {v : Val F} (hc : canShortCircuit op v = true)
    (hv : VT S v tl) : VT S v tr := by
  cases h with
  | arrRep => exact absurd (sc_bool hc).1 (by decide)
  | _ => exact hv

theorem applyBinary_typed (hx : ExtOk ext) {op : Op} {tl tr t : Ty} (h : OpTy op tl tr t) {S : Store} {st : St F}
    (hk : HeapOk S st.heap) {vl vr : Val F} (hl : VT S vl tl) (hr : VT S vr tr) :
    Good (PV t) S st (applyBinary ops ext st op vl vr) := by
  cases h with
  | arith h =>
    obtain ⟨l, rfl⟩ := hl.num_inv; obtain ⟨r, rfl⟩ := hr.num_inv
    simp only [isArith, Bool.or_eq_true, decide_eq_true_eq] at h
    rcases h with (((rfl | rfl) | rfl) | rfl) | rfl
    iterate 4 exact .pure hk (.num _)
    -- percent: the library call
    show Good _ _ _ (binNum ops ext st .percent l r)
    unfold binNum callExt
    cases hc : ext.call "math.mod" [XArg.num l, XArg.num r] with
    | none => exact .pure hk (.num _)
    | some res =>
      obtain ⟨v, rfl⟩ := hx.1 "math.mod" (by decide) _ _ hc
      exact .pure hk (.num _)
  | cmpNum h =>
    obtain ⟨l, rfl⟩ := hl.num_inv; obtain ⟨r, rfl⟩ := hr.num_inv
    simp only [isCmp, Bool.or_eq_true, decide_eq_true_eq] at h
    rcases h with ((rfl | rfl) | rfl) | rfl <;> exact .pure hk (.bool _)
  | cmpStr h =>
    obtain ⟨l, rfl⟩ := hl.str_inv; obtain ⟨r, rfl⟩ := hr.str_inv
    simp only [isCmp, Bool.or_eq_true, decide_eq_true_eq] at h
    rcases h with ((rfl | rfl) | rfl) | rfl <;> exact .pure hk (.bool _)
  | concat =>
    obtain ⟨l, rfl⟩ := hl.str_inv; obtain ⟨r, rfl⟩ := hr.str_inv
    exact .pure hk (.str _)
  | logic h =>
    obtain ⟨l, rfl⟩ := hl.bool_inv; obtain ⟨r, rfl⟩ := hr.bool_inv
    simp only [isLogic, Bool.or_eq_true, decide_eq_true_eq] at h
    rcases h with rfl | rfl <;> exact .pure hk (.bool _)
  | eq h =>
    have hop : (op = .eq || op = .neq) = true := by simpa [isEq] using h
    simp only [applyBinary, hop, if_true]
    have := (equals_ok ops hk (auxFuel st)).1 vl vr _ hl hr
    cases hq : valEquals ops st.heap (auxFuel st) vl vr with
    | yes | no => exact .pure hk (.bool _)
    | goPanic => exact absurd hq this
    | fuel => trivial
  | @arrCat s =>
    obtain ⟨a, rfl, ha⟩ := hl.arr_inv
    obtain ⟨b, rfl, hb⟩ := hr.arr_inv
    obtain ⟨xs, hx, hxs⟩ := hk.arr a s ha
    obtain ⟨ys, hy, hys⟩ := hk.arr b s hb
    simp only [applyBinary, binArr, heapGet, hx, hy, Bool.or_self, Bool.false_eq_true, if_false, reduceCtorEq, decide_false]
    exact .alloc_arr hk (hk.reg_arr ha) fun v hv => (List.mem_append.mp hv).elim (hxs v) (hys v)
  | @arrRep s =>
    obtain ⟨a, rfl, ha⟩ := hl.arr_inv
    obtain ⟨n, rfl⟩ := hr.num_inv
    obtain ⟨ls, hx, _⟩ := hk.arr a s ha
    show Good _ _ _ (binArr ops st .asterisk a (.num n))
    simp only [binArr, heapGet, hx]
    -- the three tests of the count end in the documented panic
    iterate 3 (split; exact trivial)
    split
    · rename_i es s1 hr
      exact (replicate_typed (auxFuel st) s _ S a st s1 es hk ha hr).andThen fun S1 _ hk1 hes =>
        .alloc_arr hk1 (hk.reg_arr ha) hes
    · exact trivial

theorem doc_idxErr (e : IdxErr) : Doc (idxErr e) := by cases e <;> trivial

/-- Go's own bounds check is never reached (Props/C11.lean) -/
theorem indexList_cases {α : Type} (xs : List α) (i : F) :
    (∃ e, indexList ops xs i = .error e) ∨ ∃ v ∈ xs, indexList ops xs i = .ok (some v) := by
  cases h : indexList ops xs i with
  | error e => exact .inl ⟨e, rfl⟩
  | ok o =>
    cases o with
    | none => exact absurd h (C11.indexList_never_gopanic ops xs i)
    | some v =>
      refine .inr ⟨v, ?_, rfl⟩
      unfold indexList at h
      split at h
      · cases h
      · exact List.mem_of_getElem? (Except.ok.inj h)

theorem sliceList_cases {α : Type} (xs : List α) (a b : Option F) :
    (∃ e, sliceList ops xs a b = .error e) ∨ ∃ l, (∀ v ∈ l, v ∈ xs) ∧ sliceList ops xs a b = .ok (some l) := by
  cases h : sliceList ops xs a b with
  | error e => exact .inl ⟨e, rfl⟩
  | ok o =>
    cases o with
    | none => exact absurd h (C11.sliceList_never_gopanic ops xs a b)
    | some l =>
      refine .inr ⟨l, ?_, rfl⟩
      unfold sliceList at h
      split at h
      · cases h
      · split at h <;> cases h
        exact fun v hv => List.mem_of_mem_drop (List.mem_of_mem_take hv)

inductive IdxTy : Ty → Ty → Ty → Prop
  | arr {s : Ty} : IdxTy (.arr s) .num s
  | str : IdxTy .str .num .str
  | map {s : Ty} : IdxTy (.map s) .str s

theorem indexVal_typed {tl ti t : Ty} (h : IdxTy tl ti t) {S : Store} {st : St F} (hk : HeapOk S st.heap) {l i : Val F}
    (hl : VT S l tl) (hi : VT S i ti) : Good (PV t) S st (indexVal ops st l i) := by
  cases h with
  | arr =>
    obtain ⟨a, rfl, ha⟩ := hl.arr_inv
    obtain ⟨x, rfl⟩ := hi.num_inv
    obtain ⟨es, hx, hes⟩ := hk.arr a t ha
    simp only [indexVal, heapGet, hx]
    rcases indexList_cases ops es x with ⟨e, h⟩ | ⟨v, hv, h⟩ <;> rw [h]
    · exact doc_idxErr e
    · exact .pure hk (hes v hv)
  | str =>
    obtain ⟨cs, rfl⟩ := hl.str_inv
    obtain ⟨x, rfl⟩ := hi.num_inv
    simp only [indexVal]
    rcases indexList_cases ops cs x with ⟨e, h⟩ | ⟨c, _, h⟩ <;> rw [h]
    · exact doc_idxErr e
    · exact .pure hk (.str _)
  | map =>
    obtain ⟨a, rfl, ha⟩ := hl.map_inv
    obtain ⟨k, rfl⟩ := hi.str_inv
    obtain ⟨m, hx, hm⟩ := hk.map a t ha
    simp only [indexVal, heapGet, hx]
    cases hq : m.get k with
    | none => exact trivial
    | some v => exact .pure hk (get_typed m hm k v hq)

theorem numOpt_typed {S : Store} (o : Option (Val F)) (h : ∀ v, o = some v → VT S v .num) : ∃ x, numOpt o = some x := by
  cases o with
  | none => exact ⟨none, rfl⟩
  | some v => obtain ⟨x, rfl⟩ := (h v rfl).num_inv; exact ⟨some x, rfl⟩

theorem sliceVal_typed {t : Ty} (h : t = .str ∨ ∃ s, t = .arr s) {S : Store} {st : St F} (hk : HeapOk S st.heap) {l : Val F}
    {a b : Option (Val F)} (hl : VT S l t) (ha : ∀ v, a = some v → VT S v .num) (hb : ∀ v, b = some v → VT S v .num) :
    Good (PV t) S st (sliceVal ops st l a b) := by
  obtain ⟨x, hx⟩ := numOpt_typed a ha
  obtain ⟨y, hy⟩ := numOpt_typed b hb
  rcases h with rfl | ⟨s, rfl⟩
  · obtain ⟨cs, rfl⟩ := hl.str_inv
    simp only [sliceVal, hx, hy]
    rcases sliceList_cases ops cs x y with ⟨e, h⟩ | ⟨lst, _, h⟩ <;> rw [h]
    · exact doc_idxErr e
    · exact .pure hk (.str _)
  · obtain ⟨ad, rfl, had⟩ := hl.arr_inv
    obtain ⟨es, he, hes⟩ := hk.arr ad s had
    simp only [sliceVal, hx, hy, heapGet, he]
    rcases sliceList_cases ops es x y with ⟨e, h⟩ | ⟨lst, hsub, h⟩ <;> rw [h]
    · exact doc_idxErr e
    · exact .alloc_arr hk (hk.reg_arr had) fun v hv => hes v (hsub v hv)

end EvyV.TS
