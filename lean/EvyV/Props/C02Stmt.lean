import EvyV.Props.C02Sound
import EvyV.Lemmas.Interp
/-! C02: the state invariant under binding, rebinding and element stores; the result predicates of statements. -/
namespace EvyV.TS

variable {F : Type} (ops : NumOps F)

theorem All2.imp {α β : Type} {R Q : α → β → Prop} (h : ∀ a b, R a b → Q a b) {as : List α} {bs : List β}
    (r : All2 R as bs) : All2 Q as bs := by
  induction r with
  | nil => exact .nil
  | cons hab _ ih => exact .cons (h _ _ hab) ih

theorem ScOk.mono {S S' : Store} (g : Grows S S') {e : SEnv} {sc : Scope F} (h : ScOk S e sc) : ScOk S' e sc :=
  All2.imp (fun _ _ ⟨a, b⟩ => ⟨a, b.mono g⟩) h

theorem LocalsOk.mono {S S' : Store} (g : Grows S S') {Gs : List SEnv} {l : List (Scope F)} (h : LocalsOk S Gs l) : LocalsOk S' Gs l :=
  All2.imp (fun _ _ r => ScOk.mono g r) h

theorem GlobalOk.mono {S S' : Store} (g : Grows S S') {Gg : Env} {gl : Scope F} (h : GlobalOk S Gg gl) : GlobalOk S' Gg gl :=
  fun p hp t ht => (h p hp t ht).mono g

theorem ScOk.get {S : Store} {e : SEnv} {sc : Scope F} (h : ScOk S e sc) (n : Str) :
    (scopeGet sc n = none ∧ senvGet e n = none) ∨ (∃ v t, scopeGet sc n = some v ∧ senvGet e n = some t ∧ VT S v t) := by
  induction h with
  | nil => left; exact ⟨rfl, rfl⟩
  | @cons p q ps qs hab _ ih =>
    obtain ⟨k, v⟩ := p
    obtain ⟨k', t⟩ := q
    obtain ⟨hk, hv⟩ := hab
    simp only at hk hv
    subst hk
    simp only [scopeGet, senvGet, List.lookup]
    cases hq : (n == k) with
    | true => right; exact ⟨v, t, rfl, rfl, hv⟩
    | false => simpa [scopeGet, senvGet] using ih

theorem LocalsOk.get {S : Store} {Gs : List SEnv} {l : List (Scope F)} (h : LocalsOk S Gs l) (n : Str) :
    (l.findSome? (fun s => scopeGet s n) = none ∧ Gs.findSome? (fun s => senvGet s n) = none) ∨
    (∃ v t, l.findSome? (fun s => scopeGet s n) = some v ∧ Gs.findSome? (fun s => senvGet s n) = some t ∧ VT S v t) := by
  induction h with
  | nil => left; exact ⟨rfl, rfl⟩
  | cons hab _ ih =>
    simp only [List.findSome?_cons]
    rcases hab.get n with ⟨h1, h2⟩ | ⟨v, t, h1, h2, hv⟩
    · rw [h1, h2]; exact ih
    · rw [h1, h2]; right; exact ⟨v, t, rfl, rfl, hv⟩

theorem LocalsOk.cons_inv {S : Store} {g : SEnv} {Gs : List SEnv} {l : List (Scope F)} (h : LocalsOk S (g :: Gs) l) :
    ∃ sc scs, l = sc :: scs ∧ ScOk S g sc ∧ LocalsOk S Gs scs := by
  cases h with | cons hsc hrest => exact ⟨_, _, rfl, hsc, hrest⟩

theorem StOk.envOk {S : Store} {Gs : List SEnv} {Gg : Env} {st : St F} (h : StOk S Gs Gg st) : EnvOk S (lookupG Gs Gg) st := by
  intro n t v hG hv
  unfold lookupG at hG
  unfold getVar at hv
  split at hG
  · cases hG
  · rename_i hne
    simp only [hne, if_false] at hv
    rcases h.locals.get n with ⟨h1, h2⟩ | ⟨w, t', h1, h2, hw⟩
    · rw [h1] at hv; rw [h2] at hG
      simp only at hv hG
      exact h.global (n, v) (lookup_mem n _ v hv) t hG
    · rw [h1] at hv; rw [h2] at hG
      simp only at hv hG
      cases hv; cases hG; exact hw

theorem StOk.mono {S S' : Store} (g : Grows S S') {Gs : List SEnv} {Gg : Env} {st st' : St F} (h : StOk S Gs Gg st)
    (hk : HeapOk S' st'.heap) (hl : st'.locals = st.locals) (hg : st'.global = st.global) : StOk S' Gs Gg st' :=
  ⟨by rw [hl]; exact h.locals.mono g, by rw [hg]; exact h.global.mono g, hk⟩

theorem lookupG_push (Gs : List SEnv) (Gg : Env) : lookupG ([] :: Gs) Gg = lookupG Gs Gg := by
  funext n
  simp [lookupG, senvGet, List.findSome?_cons]

theorem ScOk.set {S : Store} {e : SEnv} {sc : Scope F} (h : ScOk S e sc) (n : Str) (v : Val F) (t : Ty) (hv : VT S v t) :
    ScOk S (senvSet e n t) (scopeSet sc n v) := by
  induction h with
  | nil => exact .cons ⟨rfl, hv⟩ .nil
  | @cons p q ps qs hab hrest ih =>
    obtain ⟨k, w⟩ := p
    obtain ⟨k', t'⟩ := q
    obtain ⟨hk, hw⟩ := hab
    simp only at hk hw
    subst hk
    simp only [scopeSet, senvSet]
    split
    · exact .cons ⟨rfl, hv⟩ hrest
    · exact .cons ⟨rfl, hw⟩ ih

theorem senvSet_of_get {e : SEnv} {n : Str} {t : Ty} (h : senvGet e n = some t) : senvSet e n t = e := by
  induction e with
  | nil => cases h
  | cons q rest ih =>
    obtain ⟨k, t'⟩ := q
    simp only [senvGet, List.lookup_cons] at h
    simp only [senvSet]
    split
    · subst k; rw [beq_self_eq_true] at h; cases h; rfl
    · rename_i hne
      rw [show (n == k) = false from beq_false_of_ne (Ne.symm hne)] at h
      rw [ih h]

theorem ScOk.update {S : Store} {e : SEnv} {sc : Scope F} (h : ScOk S e sc) (n : Str) (v : Val F) (t : Ty)
    (ht : senvGet e n = some t) (hv : VT S v t) : ScOk S e (scopeSet sc n v) :=
  senvSet_of_get ht ▸ h.set n v t hv

theorem LocalsOk.update {S : Store} {Gs : List SEnv} {l : List (Scope F)} (h : LocalsOk S Gs l) (n : Str) (v : Val F) (t : Ty)
    (hv : VT S v t) :
    (Gs.findSome? (fun s => senvGet s n) = some t → ∃ l', updateLocals l n v = some l' ∧ LocalsOk S Gs l') ∧
    (Gs.findSome? (fun s => senvGet s n) = none → updateLocals l n v = none) := by
  induction h with
  | nil => constructor <;> intro h <;> simp [updateLocals] at h ⊢
  | @cons sc e scs es hab hrest ih =>
    simp only [List.findSome?_cons, updateLocals]
    rcases hab.get n with ⟨h1, h2⟩ | ⟨w, t', h1, h2, hw⟩
    · rw [h2]; simp only [h1, Option.isSome_none, Bool.false_eq_true, if_false]
      constructor
      · intro hf
        obtain ⟨l', hl', hok⟩ := ih.1 hf
        exact ⟨_, by rw [hl']; rfl, .cons hab hok⟩
      · intro hf; rw [ih.2 hf]; rfl
    · rw [h2]; simp only [h1, Option.isSome_some, if_true]
      constructor
      · intro hf; cases hf
        exact ⟨_, rfl, .cons (hab.update n v t h2 hv) hrest⟩
      · intro hf; cases hf

theorem GlobalOk.set {S : Store} {Gg : Env} {gl : Scope F} (h : GlobalOk S Gg gl) (n : Str) (v : Val F)
    (hv : ∀ t, Gg n = some t → VT S v t) : GlobalOk S Gg (scopeSet gl n v) := by
  intro p hp t ht
  rcases GoMap.mem_set (scopeSet_eq gl n v ▸ hp) with rfl | h'
  · exact hv t ht
  · exact h p h' t ht

theorem setKey_typed {S : Store} {s : Ty} (m : MapVal (Val F)) (k : Key) (v : Val F) (hm : ∀ p ∈ m.pairs, VT S p.2 s) (hv : VT S v s) :
    ∀ p ∈ (m.setKey k v).pairs, VT S p.2 s := by
  rw [MapVal.setKey_pairs]; exact set_typed m.pairs k v hm hv

theorem setIndex_typed {S : Store} {s : Ty} (es es' : List (Val F)) (i : F) (v : Val F) (hes : ∀ x ∈ es, VT S x s) (hv : VT S v s)
    (h : setIndexList ops es i v = .ok (some es')) : ∀ x ∈ es', VT S x s := by
  unfold setIndexList at h
  split at h
  · cases h
  · split at h
    · simp at h; subst h
      intro x hx
      rcases List.mem_or_eq_of_mem_set hx with h | h
      · exact hes x h
      · subst h; exact hv
    · cases h

theorem setIndex_never_gopanic (es : List (Val F)) (i : F) (v : Val F) : setIndexList ops es i v ≠ .ok none := by
  intro h
  have := (C11.setIndex_same_domain ops es i v).2
  unfold setIndexList at h
  split at h
  · cases h
  · rename_i j hj
    have := (this j hj).2
    simp [this] at h

variable (Gg : Env) (ρ : Option Ty)

/-! The result predicates: a documented outcome, or a typed result in a state typed over a grown store; by what
may have changed:
* `Good P` (C02Sound; operators, indexing, copies, allocation): the heap grew; locals and globals are untouched.
* `GoodBI ρ` (C02Builtin; built-ins): heap and globals typed again; locals untouched.
* `GoodX P` (C02Full; `evalE` … `evalCall`): a call may change anything; the state typed again, same scopes.
* `GoodS ρ Gs Gs'` (`execS`): a declaration changes the innermost scope.
* `GoodB ρ Gs` (`execStmts`, `execBlockNode`): innermost scope as the declarations left it, outer ones as before.
* `GoodK ρ Gs` (`execIfChain`, `execWhile`, `execForLoop`): every scope pushed is popped again.
* `GoodC ρ Gs` (`execCond`): `GoodK`, beside the flag "the condition held". -/

/-- on normal completion the scopes are `Gs'`; a break or return leaves the innermost scope somewhere in between,
the outer ones as they were -/
def GoodS (S : Store) (Gs Gs' : List SEnv) : Res F (Completion F) → Prop
  | .ok c st' => ∃ S' Gx, Grows S S' ∧ StOk S' Gx Gg st' ∧ Gx.tail = Gs.tail ∧ Gx.length = Gs.length ∧
      (c = .normal → Gx = Gs') ∧ ComplOk S' ρ c
  | .err o _ => Doc o

def GoodB (S : Store) (Gs : List SEnv) : Res F (Completion F) → Prop
  | .ok c st' => ∃ S' Gx, Grows S S' ∧ StOk S' Gx Gg st' ∧ Gx.tail = Gs.tail ∧ Gx.length = Gs.length ∧ ComplOk S' ρ c
  | .err o _ => Doc o

def GoodK (S : Store) (Gs : List SEnv) : Res F (Completion F) → Prop
  | .ok c st' => ∃ S', Grows S S' ∧ StOk S' Gs Gg st' ∧ ComplOk S' ρ c
  | .err o _ => Doc o

def GoodC (S : Store) (Gs : List SEnv) : Res F (Completion F × Bool) → Prop
  | .ok p st' => ∃ S', Grows S S' ∧ StOk S' Gs Gg st' ∧ ComplOk S' ρ p.1
  | .err o _ => Doc o

theorem ComplOk.mono {S S' : Store} (g : Grows S S') {c : Completion F} (h : ComplOk S ρ c) : ComplOk S' ρ c := by
  cases c with
  | normal | brk => trivial
  | ret v =>
    cases v with
    | none => exact h
    | some w => obtain ⟨t, h1, h2⟩ := h; exact ⟨t, h1, h2.mono g⟩

theorem StOk.same {S : Store} {Gs : List SEnv} {st st' : St F} (h : StOk S Gs Gg st)
    (hh : st'.heap = st.heap) (hl : st'.locals = st.locals) (hg : st'.global = st.global) : StOk S Gs Gg st' :=
  ⟨by rw [hl]; exact h.locals, by rw [hg]; exact h.global, by rw [hh]; exact h.heap⟩

theorem StOk.push {S : Store} {Gs : List SEnv} {st : St F} (h : StOk S Gs Gg st) : StOk S ([] :: Gs) Gg (pushScope st) :=
  ⟨.cons .nil h.locals, h.global, h.heap⟩

theorem StOk.pop {S : Store} {Gs Gx : List SEnv} {st : St F} (h : StOk S Gx Gg st)
    (ht : Gx.tail = Gs) (hlen : Gx.length = Gs.length + 1) : StOk S Gs Gg (popScope st) := by
  cases Gx with
  | nil => simp at hlen
  | cons g rest =>
    cases ht
    obtain ⟨sc, scs, hl, _, hrest⟩ := h.locals.cons_inv
    exact ⟨by simp only [popScope, hl, List.tail_cons]; exact hrest, h.global, h.heap⟩

theorem StOk.setVar {S : Store} {g : SEnv} {rest : List SEnv} {st : St F} (hok : StOk S (g :: rest) Gg st) {n : Str}
    (hne : n ≠ underscore) {v : Val F} {t : Ty} (hv : VT S v t) : StOk S (senvSet g n t :: rest) Gg (setVar st n v) := by
  obtain ⟨sc, scs, hl, hsc, hrest⟩ := hok.locals.cons_inv
  simp only [EvyV.setVar, hne, if_false, hl]    -- `setVar` alone is this theorem
  exact ⟨.cons (hsc.set n v t hv) hrest, hok.global, hok.heap⟩

theorem StOk.tick {S : Store} {Gs : List SEnv} {st0 st : St F} (h : StOk S Gs Gg st0) (ht : tick st0 = some st) : StOk S Gs Gg st := by
  obtain ⟨_, rfl⟩ := tick_eq ht
  exact ⟨h.locals, h.global, h.heap⟩

/-- reads a `GoodB` fact as the two cases of the result -/
@[elab_as_elim]
theorem GoodB.elim {Gg : Env} {ρ : Option Ty} {S : Store} {Gs : List SEnv} {r : Res F (Completion F)} {C : Res F (Completion F) → Prop}
    (h : GoodB Gg ρ S Gs r) (err : ∀ o s, Doc o → C (.err o s))
    (ok : ∀ c s S1 Gx, Grows S S1 → StOk S1 Gx Gg s → Gx.tail = Gs.tail → Gx.length = Gs.length → ComplOk S1 ρ c → C (.ok c s)) :
    C r := by
  cases r with
  | err o s => exact err o s h
  | ok c s => obtain ⟨S1, Gx, g, hok, ht, hlen, hc⟩ := h; exact ok c s S1 Gx g hok ht hlen hc

/-- the ranger yields values of the loop variable's type -/
def RangerOk (S : Store) : Ranger F → Ty → Prop
  | .step _ _ _, t => t = .num
  | .arr a _, t => S[a]? = some (.arr t)
  | .str _ _, t => t = .str
  | .map _ _, t => t = .str

theorem RangerOk.mono {S S' : Store} (g : Grows S S') {r : Ranger F} {t : Ty} (h : RangerOk S r t) : RangerOk S' r t := by
  cases r with
  | arr a c => exact g.get h
  | _ => exact h

theorem rangerNext_typed {S : Store} {st : St F} (hk : HeapOk S st.heap) (r r' : Ranger F) (t : Ty) (v : Val F)
    (hr : RangerOk S r t) (h : rangerNext ops st r = some (v, r')) : VT S v t ∧ RangerOk S r' t := by
  cases r with
  | step cur stop step =>
    obtain rfl : t = .num := hr
    simp only [rangerNext] at h
    split at h
    · cases h
    · split at h
      · cases h
      · simp at h; obtain ⟨rfl, rfl⟩ := h; exact ⟨.num _, rfl⟩
  | arr a cur =>
    have ha : S[a]? = some (.arr t) := hr
    obtain ⟨es, he, hes⟩ := hk.arr a t ha
    simp only [rangerNext, heapGet, he] at h
    split at h
    · rename_i w hw
      simp at h; obtain ⟨rfl, rfl⟩ := h
      exact ⟨hes _ (List.mem_of_getElem? hw), ha⟩
    · cases h
  | str rs cur =>
    obtain rfl : t = .str := hr
    simp only [rangerNext] at h
    split at h
    · simp at h; obtain ⟨rfl, rfl⟩ := h; exact ⟨.str _, rfl⟩
    · cases h
  | map a order =>
    obtain rfl : t = .str := hr
    simp only [rangerNext] at h
    split at h
    · cases hn : nextPresent ‹MapVal (Val F)› order with
      | none => rw [hn] at h; cases h
      | some p => rw [hn] at h; simp at h; obtain ⟨rfl, rfl⟩ := h; exact ⟨.str _, rfl⟩
    · cases h

theorem zeroVal_typed {S : Store} {st : St F} (hk : HeapOk S st.heap) (s : Ty) (hs : Reg s = true) :
    Good (PV s) S st (.ok (zeroVal ops st s).1 (zeroVal ops st s).2) := by
  cases s with
  | num => exact .pure hk (.num _)
  | str => exact .pure hk (.str _)
  | bool => exact .pure hk (.bool _)
  | any => exact .pure hk (.any .bool _ (by simp) (.bool _))
  | arr t => exact .alloc_arr (s := t) (es := []) hk hs nofun
  | map t => exact .alloc_map (s := t) (m := .empty) hk hs nofun
  | _ => cases hs

theorem loop_scope_ok {S : Store} {Gs : List SEnv} {st : St F} (hok : StOk S ([] :: Gs) Gg st) (lv : Option Str) (t : Ty)
    (hlv : ∀ n, lv = some n → n ≠ underscore) (z : Val F) (hz : VT S z t) :
    StOk S (loopScope lv t :: Gs) Gg (declLoopVar lv st z) := by
  cases lv with
  | none => exact hok
  | some n => exact hok.setVar Gg (hlv n rfl) hz

theorem GoodK.grow {S S1 : Store} {Gs : List SEnv} {r : Res F (Completion F)} (h : GoodK Gg ρ S1 Gs r) (g : Grows S S1) :
    GoodK Gg ρ S Gs r := by
  cases r with
  | err o s => exact h
  | ok c s => obtain ⟨S', g', hok, hc⟩ := h; exact ⟨S', g.trans g', hok, hc⟩

theorem GoodS.normal {S S1 : Store} {Gs : List SEnv} {st : St F} (hok : StOk S1 Gs Gg st) (g : Grows S S1) :
    GoodS Gg ρ S Gs Gs (.ok .normal st) :=
  ⟨S1, Gs, g, hok, rfl, rfl, fun _ => rfl, trivial⟩

theorem GoodK.toS {S : Store} {Gs : List SEnv} {r : Res F (Completion F)} (h : GoodK Gg ρ S Gs r) : GoodS Gg ρ S Gs Gs r := by
  cases r with
  | err o s => exact h
  | ok c s => obtain ⟨S', g, hok, hc⟩ := h; exact ⟨S', Gs, g, hok, rfl, rfl, fun _ => rfl, hc⟩

theorem lookupG_ne_underscore {Gs : List SEnv} {n : Str} {t : Ty} (h : lookupG Gs Gg n = some t) : n ≠ underscore := by
  intro e; subst e; simp [lookupG] at h

end EvyV.TS
