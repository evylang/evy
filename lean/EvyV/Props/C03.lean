import EvyV.Model.Lexer
/-!
C03 (lexer part): for EVERY input the token stream ends, ends with EOF, and every token carries the
line and column of the character at its offset — the position a reader would compute by counting
newlines from the start of the text.
-/
namespace EvyV.C03
open EvyV.Lexer

def stepLC (lc : Nat × Nat) (ch : Char) : Nat × Nat :=
  if ch = '\n' then (lc.1 + 1, 1) else (lc.1, lc.2 + 1)

/-- line and column (1-based, in runes) of the character at offset `n`: start at (1,1), every
character before it moves one column right, a newline moves to column 1 of the next line -/
def lineCol (inp : Array Char) (n : Nat) : Nat × Nat := (inp.toList.take n).foldl stepLC (1, 1)

theorem lineCol_succ (inp : Array Char) (p : Nat) (h : p < inp.size) :
    lineCol inp (p + 1) = stepLC (lineCol inp p) inp[p] := by
  rw [lineCol, List.take_succ_eq_append_getElem (by simpa using h), List.foldl_append]
  rfl

variable (inp : Array Char) (cl : Classes)

/-- the lexer's bookkeeping is right and its position is inside the text (or it has not started) -/
def Inv (s : St) : Prop :=
  match s.pos with
  | none => s.line = 1 ∧ s.col = 0
  | some p => p ≤ inp.size ∧ (s.line, s.col) = lineCol inp p

/-- additionally: the current rune exists -/
def Good (s : St) : Prop :=
  Inv inp s ∧ (match s.pos with | none => True | some p => p < inp.size)

/-- the unicode classification says NUL is neither a letter nor a digit -/
def ClassesOk : Prop := cl.isULetter NUL = false ∧ cl.isUDigit NUL = false

theorem lookAt_ne_nul {p : Nat} (h : lookAt inp p ≠ NUL) : p < inp.size :=
  Decidable.by_contra fun hp => h (by simp [lookAt, hp])

theorem advance_inv (s : St) (hi : Inv inp s) (hn : nextPos s ≤ inp.size) : Inv inp (advance inp s) := by
  unfold Inv advance at *
  cases hp : s.pos with
  | none =>
    simp only [hp] at hi
    have hc : cur inp s = NUL := by simp [cur, hp]
    simp [hc, NUL, nextPos, hp, hi.1, hi.2, lineCol]
  | some p =>
    simp only [hp] at hi
    have hn' : p < inp.size := by simp [nextPos, hp] at hn; omega
    have hc : cur inp s = inp[p] := by simp [cur, hp, lookAt, hn']
    obtain ⟨_, hlc⟩ := hi
    simp only [nextPos, hp, hc]
    refine ⟨hn', ?_⟩
    rw [lineCol_succ inp p hn', ← hlc]
    by_cases hnl : inp[p] = '\n' <;> simp [hnl, stepLC]

theorem advance_pos (s : St) : (advance inp s).pos = some (nextPos s) := by
  simp [advance]

theorem nextPos_advance (s : St) : nextPos (advance inp s) = nextPos s + 1 := by
  simp [advance, nextPos]

theorem advance_good (s : St) (hg : Good inp s) (hpk : peek inp s ≠ NUL) : Good inp (advance inp s) := by
  have hlt : nextPos s < inp.size := lookAt_ne_nul inp hpk
  refine ⟨advance_inv inp s hg.1 (Nat.le_of_lt hlt), ?_⟩
  simp [advance_pos, hlt]

/-- `s'` is reached from `s` by advances, each guarded by a look at a non-NUL next rune -/
inductive Fwd : St → St → Prop
  | refl (s : St) : Fwd s s
  | adv {s s' : St} : peek inp s ≠ NUL → Fwd (advance inp s) s' → Fwd s s'

theorem Fwd.good {inp : Array Char} {s s' : St} (h : Fwd inp s s') (hg : Good inp s) :
    Good inp s' ∧ nextPos s ≤ nextPos s' := by
  induction h with
  | refl => exact ⟨hg, Nat.le_refl _⟩
  | adv hp _ ih =>
    obtain ⟨g, hle⟩ := ih (advance_good inp _ hg hp)
    exact ⟨g, by rw [nextPos_advance] at hle; omega⟩

theorem advanceWhile_fwd (pred : Char → Bool) (hpred : pred NUL = false) :
    ∀ (fuel : Nat) (s : St), Fwd inp s (advanceWhile inp pred fuel s)
  | 0, s => .refl s
  | n + 1, s => by
    unfold advanceWhile
    split
    · next hp => exact .adv (fun h => by rw [h, hpred] at hp; cases hp) (advanceWhile_fwd pred hpred n _)
    · exact .refl s

theorem readString_fwd : ∀ (fuel : Nat) (esc : Bool) (s : St), Fwd inp s (readString inp fuel esc s)
  | 0, _, s => .refl s
  | n + 1, esc, s => by
    unfold readString
    simp only []  -- unfolds the `let`s
    split
    · next h1 => exact .adv (fun h => by simp [h, NUL] at h1) (.refl _)
    · split
      · exact .refl s
      · next h2 => exact .adv (fun h => h2 (by simp [h])) (readString_fwd n _ _)

theorem peek_advance (s : St) : peek inp (advance inp s) = peek2 inp s := by
  simp [peek, peek2, nextPos_advance]

theorem rule_fwd (hcl : ClassesOk cl) (s : St) : Fwd inp s (rule inp cl s).2 := by
  fun_cases rule inp cl s
  -- white space, comment, number; identifier; string
  case case1 | case8 | case30 => exact advanceWhile_fwd inp _ (by decide) _ _
  case case29 => exact advanceWhile_fwd inp _ (by simp [isLetter, hcl.1, hcl.2]; decide) _ _
  case case27 => exact readString_fwd inp _ _ _
  -- `==` `!=` `<=` `>=` `:=`
  case case2 _ h | case6 _ h | case12 _ h | case14 _ h | case16 _ h => exact .adv (by rw [h]; decide) (.refl _)
  -- `...`
  case case25 h =>
    have h : peek inp s = '.' ∧ peek2 inp s = '.' := by simpa using h
    exact .adv (by rw [h.1]; decide) (.adv (by rw [peek_advance, h.2]; decide) (.refl _))
  all_goals exact .refl s

theorem rule_spec (hcl : ClassesOk cl) (s : St) (hg : Good inp s) :
    Good inp (rule inp cl s).2 ∧ nextPos s ≤ nextPos (rule inp cl s).2 :=
  (rule_fwd inp cl hcl s).good hg

theorem rule_at_nul (s : St) (h : cur inp s = NUL) : rule inp cl s = (.eof, s) := by
  unfold rule
  simp [h, NUL]

/-- an EOF token only at NUL -/
def R (s : St) (r : TT × St) : Prop := r.1 = .eof → cur inp s = NUL

theorem rule_eof_only_at_nul (s : St) : R inp s (rule inp cl s) := by
  fun_cases rule inp cl s
  -- NUL: the only rule that gives EOF
  case case28 h => exact fun _ => h
  -- identifier / keyword: an `if`, EOF in neither branch
  case case29 => intro h; split at h <;> cases h
  all_goals exact fun h => nomatch h

theorem Good.nextPos_le {inp : Array Char} {s : St} (hg : Good inp s) : nextPos s ≤ inp.size := by
  unfold Good at hg
  cases hp : s.pos with
  | none => simp [nextPos, hp]
  | some p => have := hg.2; simp only [hp] at this; simp [nextPos, hp]; omega

theorem next_spec (hcl : ClassesOk cl) (s0 : St) (hg : Good inp s0) :
    (next inp cl s0).1.offset = nextPos s0 ∧ (next inp cl s0).1.offset ≤ inp.size ∧
    ((next inp cl s0).1.line, (next inp cl s0).1.col) = lineCol inp (next inp cl s0).1.offset ∧
    ((next inp cl s0).1.tt ≠ .eof → Good inp (next inp cl s0).2 ∧ nextPos s0 + 1 ≤ nextPos (next inp cl s0).2) ∧
    (inp.size ≤ nextPos s0 → (next inp cl s0).1.tt = .eof) := by
  have hle := hg.nextPos_le
  have hinv := advance_inv inp s0 hg.1 hle
  have hpos := advance_pos inp s0
  have hlc : ((advance inp s0).line, (advance inp s0).col) = lineCol inp (nextPos s0) := by
    unfold Inv at hinv; simp only [hpos] at hinv; exact hinv.2
  have hnp := nextPos_advance inp s0
  refine ⟨rfl, hle, hlc, ?_, ?_⟩
  · intro hne
    have hc : cur inp (advance inp s0) ≠ NUL := fun e => hne (by simp [next, rule_at_nul inp cl _ e])
    have hgd := advance_good inp s0 hg (by simpa [cur, peek, hpos] using hc)
    obtain ⟨g1, g2⟩ := rule_spec inp cl hcl _ hgd
    exact ⟨g1, by simp only [next]; omega⟩
  · intro h
    have : cur inp (advance inp s0) = NUL := by simp [cur, hpos, lookAt]; omega
    simp [next, rule_at_nul inp cl _ this]

theorem tokens_succ (n : Nat) (s : St) : tokens inp cl (n + 1) s =
    if (next inp cl s).1.tt = .eof then [(next inp cl s).1] else (next inp cl s).1 :: tokens inp cl n (next inp cl s).2 := by
  rw [tokens]  -- `rfl` would unfold `next`

/-- `fuel + nextPos s` is the measure: each call of Next moves on by a rune, and from `inp.size` on the token is EOF -/
theorem tokens_spec (hcl : ClassesOk cl) : ∀ (fuel : Nat) (s : St), Good inp s →
    (∀ t ∈ tokens inp cl fuel s, t.offset ≤ inp.size ∧ (t.line, t.col) = lineCol inp t.offset) ∧
    (inp.size + 1 ≤ fuel + nextPos s →
      ∃ pre last, tokens inp cl fuel s = pre ++ [last] ∧ last.tt = .eof ∧ ∀ t ∈ pre, t.tt ≠ .eof) := by
  intro fuel
  induction fuel with
  | zero =>
    intro s hg
    refine ⟨by simp [tokens], ?_⟩
    intro h
    have := hg.nextPos_le
    omega
  | succ n ih =>
    intro s hg
    obtain ⟨-, h2, h3, h4, -⟩ := next_spec inp cl hcl s hg
    rw [tokens_succ]
    split
    · next he => exact ⟨by simpa using ⟨h2, h3⟩, fun _ => ⟨[], _, rfl, he, nofun⟩⟩
    · next he =>
      obtain ⟨g1, g2⟩ := h4 he
      obtain ⟨i1, i2⟩ := ih _ g1
      refine ⟨List.forall_mem_cons.2 ⟨⟨h2, h3⟩, i1⟩, fun hf => ?_⟩
      obtain ⟨pre, last, e1, e2, e3⟩ := i2 (by omega)
      exact ⟨_ :: pre, last, by rw [e1]; rfl, e2, List.forall_mem_cons.2 ⟨he, e3⟩⟩

/-- **C03, lexer** — for every input (any runes, any length): lexing ends; the token list is a run of
non-EOF tokens followed by exactly one EOF; and every token's line and column are the position of the
character at its offset, which lies inside the text (or just after it, for EOF). -/
theorem lex_total_and_located (hcl : ClassesOk cl) :
    (∀ t ∈ lex inp cl, t.offset ≤ inp.size ∧ (t.line, t.col) = lineCol inp t.offset) ∧
    (∃ pre last, lex inp cl = pre ++ [last] ∧ last.tt = .eof ∧ ∀ t ∈ pre, t.tt ≠ .eof) := by
  obtain ⟨h1, h2⟩ := tokens_spec inp cl hcl (inp.size + 1) init (by simp [Good, Inv, init])
  exact ⟨h1, h2 (by simp [nextPos, init])⟩

/-- tokens follow one another: each starts after the previous one -/
theorem tokens_increasing (hcl : ClassesOk cl) : ∀ (fuel : Nat) (s : St), Good inp s →
    List.Pairwise (fun a b => a.offset < b.offset) (tokens inp cl fuel s) ∧
    ∀ t ∈ tokens inp cl fuel s, nextPos s ≤ t.offset := by
  intro fuel
  induction fuel with
  | zero => intro s _; simp [tokens]
  | succ n ih =>
    intro s hg
    obtain ⟨h1, _, _, h4, _⟩ := next_spec inp cl hcl s hg
    rw [tokens_succ]
    split
    · simp [h1]
    · next he =>
      obtain ⟨g1, g2⟩ := h4 he
      obtain ⟨i1, i2⟩ := ih _ g1
      exact ⟨List.Pairwise.cons (fun t ht => by have := i2 t ht; omega) i1,
        List.forall_mem_cons.2 ⟨by omega, fun t ht => by have := i2 t ht; omega⟩⟩

def asciiClasses : Classes :=
  { isULetter := fun c => ('a' ≤ c && c ≤ 'z') || ('A' ≤ c && c ≤ 'Z'), isUDigit := fun c => '0' ≤ c && c ≤ '9' }

example : ClassesOk asciiClasses := ⟨by decide, by decide⟩

example : (lex "x := 1\nprint x // hi".toList.toArray asciiClasses).map (fun t => (t.offset, t.line, t.col)) =
    [(0, 1, 1), (1, 1, 2), (2, 1, 3), (4, 1, 5), (5, 1, 6), (6, 1, 7), (7, 2, 1), (12, 2, 6), (13, 2, 7), (14, 2, 8),
     (15, 2, 9), (20, 2, 14)] := by decide +kernel  -- plain `decide` evaluates in the elaborator first

end EvyV.C03
