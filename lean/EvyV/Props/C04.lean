import EvyV.Spec.Typing
/-!
C04: the type relations the parser decides (Model/Types.lean, tied to pkg/parser/type.go by an
exhaustive function-level correspondence) are exactly the rules of docs/spec.md (Spec/Typing.lean).
-/
namespace EvyV.C04
open EvyV.Types EvyV.Types.Spec

theorem acceptsAux_fixed_left (top rf : Bool) (l r : Ty) :
    Ty.acceptsAux top rf l.fixedType r = Ty.acceptsAux top rf l r := by
  cases l <;> simp [Ty.fixedType, Ty.acceptsAux]

theorem ofL_not_fixed (l : LTy) : (ofL l).isFixed = false := by
  cases l <;> simp [ofL, Ty.isFixed]

theorem ofL_ne_none (l : LTy) : ofL l ≠ .none := by
  cases l <;> simp [ofL]

theorem accepts_of_conv {l : LTy} {t : STy} (h : Conv l t) : ∀ top, Ty.acceptsAux top false (ofS t) (ofL l) = true := by
  induction h with
  | toAny l => intro top; simp [ofS, Ty.acceptsAux, ofL_not_fixed, ofL_ne_none]
  | arr _ ih | map _ ih => intro _; exact ih false
  | _ => intro _; rfl

/-- pair by pair the check computes to `false`, or descends, or a rule of `Conv` applies -/
theorem conv_of_accepts : ∀ (t : STy) (l : LTy) (top : Bool), Ty.acceptsAux top false (ofS t) (ofL l) = true → Conv l t
  | t, l, top, h => by
    cases t <;> cases l <;>
      first | exact Bool.noConfusion h | exact .arr (conv_of_accepts _ _ _ h) | exact .map (conv_of_accepts _ _ _ h) | constructor

/-- **constants** (spec.md "Assignability of constant values" and "of empty composite literals") -/
theorem accepts_const_iff (t : STy) (l : LTy) :
    (ofS t).fixedType.accepts (ofL l) = true ↔ Conv l t := by
  unfold Ty.accepts
  rw [acceptsAux_fixed_left]
  exact ⟨conv_of_accepts t l true, fun h => accepts_of_conv h true⟩

theorem ofS_inj : ∀ (t u : STy), ofS t = ofS u → t = u := by
  intro t
  induction t with
  | arr s ih | map s ih => intro u h; cases u <;> simp [ofS] at h; rw [ih _ h]
  | _ => intro u h; cases u <;> simp [ofS] at h <;> rfl

theorem acceptsAux_under_fixed : ∀ (t u : STy), Ty.acceptsAux false true (ofS t) (ofS u) = decide (t = u)
  | t, u => by
    cases t <;> cases u <;> first | rfl | simp [ofS, Ty.acceptsAux, acceptsAux_under_fixed _ _]

theorem accepts_fixed_iff (top : Bool) (t u : STy) :
    Ty.acceptsAux top false (ofS t) (ofS u).fixedType = true ↔
      t = u ∨ (t = .any ∧ (top = true ∨ ∀ s, u ≠ .arr s ∧ u ≠ .map s)) := by
  cases t <;> cases u <;> simp [ofS, Ty.fixedType, Ty.acceptsAux, Ty.isFixed, acceptsAux_under_fixed]

/-- **variables** (spec.md "Assignability of variable values"): parameters, elements, fields, call results alike -/
theorem accepts_var_iff (t u : STy) :
    (ofS t).fixedType.accepts (ofS u).fixedType = true ↔ (t = u ∨ t = .any) := by
  unfold Ty.accepts
  rw [acceptsAux_fixed_left, accepts_fixed_iff]
  simp

/-- a literal with a composite VARIABLE element (`[x]`, x:[]num) does not convert: it is accepted only
by the identical type or by any -/
theorem accepts_literal_of_var_iff (t u : STy) :
    (ofS (.arr t)).fixedType.accepts (.arr false (ofS u).fixedType) = true ↔ t = u ∨ (t = .any ∧ ∀ s, u ≠ .arr s ∧ u ≠ .map s) := by
  unfold Ty.accepts
  rw [acceptsAux_fixed_left]
  simp only [ofS, Ty.acceptsAux, Bool.or_false, accepts_fixed_iff, Bool.false_eq_true, false_or]

theorem matches_of_same {a b : LTy} (h : Same a b) : (ofL a).matchesT (ofL b) = true := by
  induction h with
  | arr _ ih | map _ ih => exact ih
  | _ => rfl

theorem same_of_matches : ∀ (a b : LTy), (ofL a).matchesT (ofL b) = true → Same a b
  | a, b, h => by
    cases a <;> cases b <;>
      first | exact Bool.noConfusion h | exact .arr (same_of_matches _ _ h) | exact .map (same_of_matches _ _ h) | constructor

theorem matches_iff (a : LTy) : ∀ (b : LTy), (ofL a).matchesT (ofL b) = true ↔ Same a b :=
  fun b => ⟨same_of_matches a b, matches_of_same⟩

theorem matchesT_scalar {l : Ty} (h : l = .num ∨ l = .str ∨ l = .bool) (r : Ty) : l.matchesT r = decide (r = l) := by
  rcases h with rfl | rfl | rfl <;> cases r <;> rfl

/-- the operator table of spec.md "Operators and Expressions", for all types -/
theorem binType_eq (op : BinOp) (l r : Ty) :
    binType op l r =
      match op with
      | .minus | .slash | .percent => if l = .num ∧ r = .num then some .num else none
      | .and | .or => if l = .bool ∧ r = .bool then some .bool else none
      | .lt | .gt | .le | .ge => if (l = .num ∧ r = .num) ∨ (l = .str ∧ r = .str) then some .bool else none
      | .eq | .ne => if l.matchesT r then some .bool else none
      | .plus =>
        if l = .num ∧ r = .num then some .num
        else if l = .str ∧ r = .str then some .str
        else if l.name = .array ∧ l.matchesT r then some (if r.name = .array then l.concatType r else l)
        else none
      | .star =>
        if l = .num ∧ r = .num then some .num
        else if l.name = .array ∧ r = .num then some l
        else none := by
  cases op
  case plus =>
    by_cases hl : l = .num ∨ l = .str
    · rcases hl with rfl | rfl <;> simp [binType, matchesT_scalar, Ty.name, BinOp.isComparison]
    · rw [not_or] at hl
      by_cases ha : l.name = .array
      · cases hm : l.matchesT r <;> simp [binType, hl, hm, ha, BinOp.isComparison]
        split <;> rfl
      · simp [binType, hl, ha]
  case star =>
    by_cases hl : l = .num
    · subst hl; simp [binType, matchesT_scalar, Ty.name, BinOp.isComparison]
    · by_cases ha : l.name = .array
      · simp [binType, hl, ha, BinOp.isComparison]
      · simp [binType, hl, ha]
  case eq | ne => cases hm : l.matchesT r <;> simp [binType, hm, BinOp.isComparison]
  -- the other operators take one or two scalar types, and a scalar matches only itself
  case lt | gt | le | ge =>
    by_cases hl : l = .num ∨ l = .str
    · rcases hl with rfl | rfl <;> simp [binType, matchesT_scalar, Ty.name, BinOp.isComparison]
    · rw [not_or] at hl; simp [binType, hl]
  case and | or =>
    by_cases hl : l = .bool
    · subst hl; simp [binType, matchesT_scalar, Ty.name, BinOp.isComparison]
    · simp [binType, hl]
  all_goals
    by_cases hl : l = .num
    · subst hl; simp [binType, matchesT_scalar, Ty.name, BinOp.isComparison]
    · simp [binType, hl]

theorem arith_iff (op : BinOp) (h : op = .minus ∨ op = .slash ∨ op = .percent) (l r : Ty) :
    binType op l r = (if l = .num ∧ r = .num then some .num else none) := by
  rcases h with rfl | rfl | rfl <;> exact binType_eq _ l r

theorem logical_iff (op : BinOp) (h : op = .and ∨ op = .or) (l r : Ty) :
    binType op l r = (if l = .bool ∧ r = .bool then some .bool else none) := by
  rcases h with rfl | rfl <;> exact binType_eq _ l r

theorem ordering_iff (op : BinOp) (h : op = .lt ∨ op = .gt ∨ op = .le ∨ op = .ge) (l r : Ty) :
    binType op l r = (if (l = .num ∧ r = .num) ∨ (l = .str ∧ r = .str) then some .bool else none) := by
  rcases h with rfl | rfl | rfl | rfl <;> exact binType_eq _ l r

theorem equality_iff (op : BinOp) (h : op = .eq ∨ op = .ne) (l r : Ty) :
    binType op l r = (if l.matchesT r then some .bool else none) := by
  rcases h with rfl | rfl <;> exact binType_eq _ l r

theorem plus_iff (l r : Ty) :
    binType .plus l r =
      (if l = .num ∧ r = .num then some .num
       else if l = .str ∧ r = .str then some .str
       else if l.name = .array ∧ l.matchesT r then some (if r.name = .array then l.concatType r else l)
       else none) :=
  binType_eq .plus l r

theorem star_iff (l r : Ty) :
    binType .star l r =
      (if l = .num ∧ r = .num then some .num
       else if l.name = .array ∧ r = .num then some l
       else none) :=
  binType_eq .star l r

theorem unary_iff (t : Ty) :
    unType .neg t = (if t = .num then some .num else none) ∧ unType .not t = (if t = .bool then some .bool else none) := by
  cases t <;> simp [unType]

/-- the type `x := <constant>` gives `x`: empty literals become any-based composites -/
def inferS : LTy → STy
  | .num => .num | .str => .str | .bool => .bool | .any => .any
  | .emptyArr => .arr .any | .emptyMap => .map .any
  | .arr s => .arr (inferS s) | .map s => .map (inferS s)

theorem infer_eq (l : LTy) : (ofL l).infer = ofS (inferS l) := by
  induction l with
  | arr s ih | map s ih => simp only [ofL, Ty.infer, ih, inferS, ofS]
  | _ => rfl

/-- the result has no untyped part left -/
theorem infer_const (l : LTy) : ∃ t : STy, (ofL l).infer = ofS t := ⟨_, infer_eq l⟩

theorem conv_inferS (l : LTy) : Conv l (inferS l) := by
  induction l <;> constructor <;> assumption

/-- the inferred type accepts the constant it was inferred from (so the declaration never fails) -/
theorem infer_accepts (l : LTy) : ∀ top, Ty.acceptsAux top false (ofL l).infer (ofL l) = true :=
  fun top => infer_eq l ▸ accepts_of_conv (conv_inferS l) top

/-- and a declared (non-literal) type is left alone -/
theorem infer_declared (t : STy) : (ofS t).infer = ofS t := by
  induction t with
  | arr s ih | map s ih => simp [ofS, Ty.infer, ih]
  | _ => rfl

theorem equals_ofL : ∀ (a b : LTy), (ofL a).equals (ofL b) = decide (a = b)
  | a, b => by
    cases a <;> cases b <;> first | rfl | simp [ofL, Ty.equals, equals_ofL _ _]

theorem join_self (a : LTy) : join a a = a := by
  induction a with
  | arr s ih | map s ih => simp [join, ih]
  | _ => simp [join]

theorem join_comm (a : LTy) : ∀ b : LTy, join a b = join b a := by
  induction a with
  | arr s ih | map s ih => intro b; cases b <;> first | rfl | simp only [join, ih]
  | _ => intro b; cases b <;> rfl

theorem ite_swap_eq {α : Type} (sw : Bool) (a b : α) : ((if sw then b else a) = (if sw then a else b)) ↔ a = b := by
  cases sw <;> simp [eq_comm]

/-- the recursive step of combineTypes computes the join, in whichever order it is called -/
theorem combineSub_const : ∀ (a : LTy) (sw : Bool) (b : LTy), Ty.combineSub sw (ofL a) (ofL b) = ofL (join a b)
  | a, sw, b => by
    by_cases h : a = b
    · subst h; unfold Ty.combineSub; simp [equals_ofL, ofL_not_fixed, join_self]
    · unfold Ty.combineSub
      simp only [← apply_ite ofL, equals_ofL, ofL_not_fixed, ite_swap_eq, h, decide_false, Bool.false_eq_true, if_false,
        Bool.or_false]
      -- different kinds: by computation; the same scalar: excluded; two arrays, two maps: the element types
      cases a <;> cases b <;> first | rfl | exact absurd rfl h | exact congrArg _ (combineSub_const _ _ _)

theorem le_join_left (a : LTy) : ∀ b : LTy, Le a (join a b) := by
  induction a with
  | arr s ih | map s ih => intro b; cases b <;> constructor <;> exact ih _
  | _ => intro b; cases b <;> constructor

/-- the join is an upper bound … -/
theorem join_upper (a : LTy) : ∀ b : LTy, Le a (join a b) ∧ Le b (join a b) :=
  fun b => ⟨le_join_left a b, join_comm a b ▸ le_join_left b a⟩

theorem join_of_le {a b : LTy} (h : Le b a) : join a b = a := by
  induction h with
  | refl a => exact join_self a
  | toAny b => cases b <;> rfl
  | arr _ ih | map _ ih => simp only [join, ih]
  | emptyArr _ | emptyMap _ => rfl

/-- … and the least one: inference picks the STRICTEST common type -/
theorem join_least (a : LTy) : ∀ (b c : LTy), Le a c → Le b c → Le (join a b) c := by
  intro b c hac
  induction hac generalizing b with
  | refl a => intro hbc; rw [join_of_le hbc]; exact Le.refl _
  | toAny a => intro _; exact Le.toAny _
  | arr h1 ih =>
    intro hbc
    cases hbc with
    | refl => exact Le.arr (ih _ (Le.refl _))
    | arr h2 => exact Le.arr (ih _ h2)
    | emptyArr => exact Le.arr h1
  | map h1 ih =>
    intro hbc
    cases hbc with
    | refl => exact Le.map (ih _ (Le.refl _))
    | map h2 => exact Le.map (ih _ h2)
    | emptyMap => exact Le.map h1
  | emptyArr c | emptyMap c => intro hbc; cases hbc <;> constructor <;> assumption

/-- one step of the loop is `combineTypes([c, t])` itself -/
theorem combine2_eq (c t : Ty) : (Ty.combine2 c t).getD .any = Ty.combineSub true t c := by
  unfold Ty.combine2
  conv => rhs; unfold Ty.combineSub
  simp only [if_true]
  split
  · rfl
  · split
    · rfl
    · cases c <;> cases t <;> rfl

/-- combineTypes on two constant element types is their join (the top-level call gives up with `any`
exactly where the join is `any`) -/
theorem combine2_const (a b : LTy) :
    (Ty.combine2 (ofL a) (ofL b)).getD .any = ofL (join a b) := by
  rw [combine2_eq, combineSub_const, join_comm]

example : Conv (.arr (.map (.arr .num))) (.arr (.map .any)) := Conv.arr (Conv.map (Conv.toAny _))
example : (ofS (.arr .any)).fixedType.accepts (ofL (.arr .num)) = true := by decide
example : (ofS (.arr .any)).fixedType.accepts (ofS (.arr .num)).fixedType = false := by decide
example : (ofS (.arr (.map .any))).accepts (ofL (.arr (.map (.arr .emptyArr)))) = true := by decide
example : binType .plus (ofL (.arr .emptyArr)) (ofL (.arr (.arr .num))) = some (ofL (.arr (.arr .num))) := by decide
example : binType .star .emptyArr .num = some .emptyArr := by decide

end EvyV.C04
