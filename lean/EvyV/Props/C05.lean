import EvyV.Model.Static
import EvyV.Model.Interp
import EvyV.Gen.Shapes
/-!
C05 (the part that is logic): the parser's termination analysis is sound for the evaluator. What it calls "always
terminates" (so that code after it is unreachable, and a typed function ending in it needs no further return) never
completes normally, in any execution; a body it accepts for a function with a result type can only end by returning a
value; and the entry points parse first and return on error (extracted call shapes of evaluator.Run).
-/
namespace EvyV.C05
variable {F : Type} (ops : NumOps F) (ext : Ext F) (prog : Program F)

theorem terminating_never_normal (fuel : Nat) :
    (∀ (s : Stmt F) st c st', stmtTerms s = true → execS ops ext prog fuel s st = .ok c st' → c ≠ .normal) ∧
    (∀ (b : List (Stmt F)) st c st', blockTerms b = true → execStmts ops ext prog fuel b st = .ok c st' → c ≠ .normal) ∧
    (∀ (b : List (Stmt F)) st c st', blockTerms b = true → execBlockNode ops ext prog fuel b st = .ok c st' → c ≠ .normal) ∧
    (∀ (cond : Expr F) (b : List (Stmt F)) st c st', blockTerms b = true →
        execCond ops ext prog fuel cond b st = .ok (c, true) st' → c ≠ .normal) ∧
    (∀ (conds : List (Expr F × List (Stmt F))) (e : List (Stmt F)) st c st', blockTerms e = true → condsTerm conds = true →
        execIfChain ops ext prog fuel conds (some e) st = .ok c st' → c ≠ .normal) := by
  -- every case: unfold and split; a failing leaf is no `.ok` (`nofun`), a successful one is read by `rintro ⟨⟩`, a tail
  -- call is the hypothesis
  induction fuel with
  | zero => and_intros <;> intros <;> contradiction
  | succ n ih =>
    obtain ⟨ih1, ih2, ih3, ih4, ih5⟩ := ih
    and_intros
    · intro s st c st' hs
      unfold execS
      split
      · nofun
      · cases s with
        | brk => rintro ⟨⟩; nofun
        | ret v =>
          cases v with
          | none => rintro ⟨⟩; nofun
          | some e => simp only; split <;> rintro ⟨⟩; nofun
        | ifS conds els =>
          cases els with
          | none => cases hs
          | some e =>
            simp only [stmtTerms, Bool.and_eq_true] at hs
            exact ih5 conds e _ c st' hs.1 hs.2
        | _ => cases hs
    · intro b st c st' hb
      cases b with
      | nil => cases hb
      | cons s rest =>
        simp only [blockTerms, Bool.or_eq_true] at hb
        unfold execStmts
        split
        · nofun
        · next h1 => exact ih2 rest _ c st' (hb.resolve_left fun hs => ih1 s st _ _ hs h1 rfl)
        · next hn _ => rintro ⟨⟩; exact hn
    · intro b st c st' hb
      unfold execBlockNode
      split
      · nofun
      · exact ih2 b _ c st' hb
    · intro cond b st c st' hb
      unfold execCond
      simp only
      split
      · nofun
      · split
        · nofun
        · next h1 => rintro ⟨⟩; exact ih3 b _ _ _ hb h1
      · nofun
      · nofun
    · intro conds e st c st' he hc
      cases conds with
      | nil =>
        unfold execIfChain
        simp only
        split
        · nofun
        · next h1 => rintro ⟨⟩; exact ih3 e _ _ _ he h1
      | cons cb rest =>
        simp only [condsTerm, Bool.and_eq_true] at hc
        unfold execIfChain
        split
        · nofun
        · next h1 => rintro ⟨⟩; exact ih4 _ _ _ _ _ hc.1 h1
        · exact ih5 rest e _ c st' he hc.2

/-- **soundness of "unreachable code" / "missing return"**: whatever the parser's analysis calls
terminating never falls through, in any execution of any length -/
theorem block_terminates_sound (fuel : Nat) (b : List (Stmt F)) (st st' : St F) (c : Completion F)
    (hb : blockTerms b = true) (h : execStmts ops ext prog fuel b st = .ok c st') : c ≠ .normal :=
  (terminating_never_normal ops ext prog fuel).2.1 b st c st' hb h

def OkC {α : Type} (P : α → Prop) : Res F α → Prop
  | .ok a _ => P a
  | .err _ _ => True

theorem OkC.of_ok {α : Type} {P : α → Prop} {r : Res F α} {a : α} {st : St F} (h : OkC P r) (e : r = .ok a st) : P a := by
  subst e; exact h

/-- how a statement in the body of a function with a result type may complete -/
def Compl (inLoop : Bool) (c : Completion F) : Prop :=
  (c = .brk → inLoop = true) ∧ ∀ v, c = .ret v → v.isSome = true

theorem Compl.normal (il : Bool) : Compl il (.normal : Completion F) := ⟨nofun, nofun⟩
theorem Compl.ret {il il' : Bool} {v : Option (Val F)} (h : Compl il (.ret v)) : Compl il' (.ret v) := ⟨nofun, h.2⟩

/-- what `fnOkS` accepts completes in an allowed way -/
theorem fn_completions (n : Nat) :
    (∀ il (s : Stmt F) st, fnOkS il s = true → OkC (Compl il) (execS ops ext prog n s st)) ∧
    (∀ il (b : List (Stmt F)) st, fnOkB il b = true → OkC (Compl il) (execStmts ops ext prog n b st)) ∧
    (∀ il (b : List (Stmt F)) st, fnOkB il b = true → OkC (Compl il) (execBlockNode ops ext prog n b st)) ∧
    (∀ il cond (b : List (Stmt F)) st, fnOkB il b = true → OkC (fun p => Compl il p.1) (execCond ops ext prog n cond b st)) ∧
    (∀ il conds e st, fnOkConds il conds = true → e.all (fnOkB il) = true →
      OkC (Compl il) (execIfChain ops ext prog n conds e st)) ∧
    (∀ il cond (b : List (Stmt F)) st, fnOkB true b = true → OkC (Compl il) (execWhile ops ext prog n cond b st)) ∧
    (∀ il lv r (b : List (Stmt F)) st, fnOkB true b = true → OkC (Compl il) (execForLoop ops ext prog n lv r b st)) := by
  induction n with
  | zero => and_intros <;> intros <;> trivial
  | succ n ih =>
    obtain ⟨ih1, ih2, ih3, ih4, ih5, ih6, ih7⟩ := ih
    and_intros
    · intro il s st hs
      unfold execS
      split
      · trivial
      · cases s with
        | brk => exact ⟨fun _ => hs, nofun⟩
        | ret v =>
          cases v with
          | none => cases hs
          | some e => simp only; split; trivial; exact ⟨nofun, fun _ e => by cases e; rfl⟩
        | ifS conds els =>
          cases els <;> simp only [fnOkS, Bool.and_eq_true] at hs
          · exact ih5 il conds none _ hs.1 rfl
          · exact ih5 il conds _ _ hs.1 hs.2
        | whileS c b => exact ih6 il c b _ hs
        | forS lvOpt lvTy range body =>
          simp only
          split
          · trivial
          · split
            · trivial
            · next h => exact (ih7 il _ _ body _ hs).of_ok h
        -- declaration, assignment, call, noop: every leaf is a failure or `.ok .normal _`
        | _ => simp only; (repeat' split) <;> first | exact trivial | exact Compl.normal il
    · intro il b st hb
      cases b with
      | nil => exact Compl.normal il
      | cons s rest =>
        simp only [fnOkB, Bool.and_eq_true] at hb
        unfold execStmts
        have g := ih1 il s st hb.1
        split
        · trivial
        · exact ih2 il rest _ hb.2
        · next h => exact g.of_ok h
    · intro il b st hb
      unfold execBlockNode
      split
      · trivial
      · exact ih2 il b _ hb
    · intro il cond b st hb
      unfold execCond
      simp only
      split
      · trivial
      · split
        · trivial
        · next h => exact (ih3 il b _ hb).of_ok h
      · exact Compl.normal il
      · trivial
    · intro il conds e st hc he
      cases conds with
      | nil =>
        unfold execIfChain
        cases e with
        | none => exact Compl.normal il
        | some body =>
          simp only
          split
          · trivial
          · next h => exact (ih3 il body _ he).of_ok h
      | cons cb rest =>
        simp only [fnOkConds, Bool.and_eq_true] at hc
        unfold execIfChain
        split
        · trivial
        · next h => exact (ih4 il _ _ _ hc.1).of_ok h
        · exact ih5 il rest e _ hc.2 he
    · intro il cond b st hb
      unfold execWhile
      split
      · trivial
      · exact Compl.normal il
      · exact Compl.normal il
      · next h => exact ((ih4 true cond b st hb).of_ok h).ret
      · exact ih6 il cond b _ hb
    · intro il lv r b st hb
      unfold execForLoop
      split
      · exact Compl.normal il
      · split
        · trivial
        · split
          · trivial
          · exact Compl.normal il
          · next h => exact ((ih3 true b _ hb).of_ok h).ret
          · exact ih7 il lv _ b _ hb

/-- **soundness of "missing return"**: a function body that the parser accepts for a function with a
return type — it always terminates, breaks only inside loops, returns only values — can only end by
returning a value (or by failing): it never falls off its end and never returns nothing -/
theorem typed_function_returns_a_value (fuel : Nat) (body : List (Stmt F)) (st st' : St F) (c : Completion F)
    (ht : blockTerms body = true) (hf : fnOkB false body = true)
    (h : execBlockNode ops ext prog fuel body st = .ok c st') : ∃ v, c = .ret (some v) := by
  have h1 := (terminating_never_normal ops ext prog fuel).2.2.1 body st c st' ht h
  have h2 := ((fn_completions ops ext prog fuel).2.2.1 false body st hf).of_ok h
  cases c with
  | normal => exact absurd rfl h1
  | brk => exact nomatch h2.1 rfl
  | ret v =>
    cases v with
    | none => exact nomatch h2.2 none rfl
    | some w => exact ⟨w, rfl⟩

theorem run_parses_first :
    Gen.evaluatorRun = [("parse", "checked"), ("eval", "returned")] := rfl

/-- the abstract entry point with that shape: a parse error means no effect at all -/
def runShape {P E : Type} (parse : String → Except E P) (eval : P → List String) (src : String) : List String :=
  match parse src with
  | .error _ => []
  | .ok p => eval p

theorem rejected_runs_nothing {P E : Type} (parse : String → Except E P) (eval : P → List String) (src : String) (e : E)
    (h : parse src = .error e) : runShape parse eval src = [] := by
  simp [runShape, h]

/-! Non-vacuity: blocks that terminate and that do not; a body accepted for a typed function -/
example : blockTerms ([.decl ['x'] (.num (1 : Int)), .ifS [(.bool true, [.ret none])] (some [.brk]), .noop] : List (Stmt Int)) = true := by
  decide
example : blockTerms ([.ifS [(.bool true, [.ret none])] none] : List (Stmt Int)) = false := by decide
example : blockTerms ([.whileS (.bool true) [.ret none]] : List (Stmt Int)) = false := by decide
example : fnOkB false ([.whileS (.bool true) [.brk], .ifS [(.bool true, [.ret (some (.num (1 : Int)))])] (some [.ret (some (.num 2))])] : List (Stmt Int)) = true ∧
    blockTerms ([.whileS (.bool true) [.brk], .ifS [(.bool true, [.ret (some (.num (1 : Int)))])] (some [.ret (some (.num 2))])] : List (Stmt Int)) = true := by decide

end EvyV.C05
