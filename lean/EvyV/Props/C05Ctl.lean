import EvyV.Model.Ctl
import EvyV.Gen.ScopeSites
/-!
C05, `break` and `return`: what the parser's chain walk accepts is exactly the structural rule —

  * a `break` stands inside a loop of the SAME function, handler or top-level code (`ctlS`: a function or handler
    starts again outside every loop),
  * a `return` stands inside a function or a handler, and carries a value exactly when the function has a result type.

The parser's inLoop walks the whole scope chain, through function boundaries; the two agree because functions and
handlers stand at top level only (`TopOnly`, which is what parseProgram's dispatch gives: Props/Blocks.lean).
-/
namespace EvyV.Ctl

mutual
def ctlS (loop : Bool) (ret : Option Bool) : St → Prop
  | .simple => True
  | .brk => loop = true
  | .ret v => ret = some v
  | .scope .loop body => ctlL true ret body
  | .scope (.func t) body => ctlL false (some t) body
  | .scope .handler body => ctlL false (some false) body
  | .scope _ body => ctlL loop ret body
def ctlL (loop : Bool) (ret : Option Bool) : Ss → Prop
  | .nil => True
  | .cons s rest => ctlS loop ret s ∧ ctlL loop ret rest
end

mutual
def noFnS : St → Prop
  | .scope (.func _) _ => False
  | .scope .handler _ => False
  | .scope _ body => noFnL body
  | _ => True
def noFnL : Ss → Prop
  | .nil => True
  | .cons s rest => noFnS s ∧ noFnL rest
end

def TopOnly : Ss → Prop
  | .nil => True
  | .cons (.scope (.func _) body) rest => noFnL body ∧ TopOnly rest
  | .cons (.scope .handler body) rest => noFnL body ∧ TopOnly rest
  | .cons s rest => noFnS s ∧ TopOnly rest

@[simp] theorem loop_eq : (K.loop == K.loop) = true := by decide

def topRet : List Sc → Option Bool
  | [] => none
  | s :: _ => s.ret

theorem retOK_iff (v : Bool) : ∀ (k : List Sc), retOK v k = true ↔ topRet k = some v
  | [] => by simp [retOK, topRet]
  | s :: _ => by simp only [retOK, topRet]; cases s.ret <;> simp

mutual
/-- inside one function the chain walk and the structural rule agree, by computation (for a function or a handler
`noFnS` is `False`: those two scope kinds need no clause) -/
theorem chkS_iff : ∀ (s : St) (k : List Sc), noFnS s → (chkS s k = true ↔ ctlS (inLoop k) (topRet k) s)
  | .simple, _, _ => iff_of_true rfl trivial
  | .brk, _, _ => Iff.rfl
  | .ret v, k, _ => retOK_iff v k
  | .scope .prog body, k, h | .scope .branch body, k, h | .scope .loop body, k, h => chkL_iff body (push _ k) h
theorem chkL_iff : ∀ (ss : Ss) (k : List Sc), noFnL ss → (chkL ss k = true ↔ ctlL (inLoop k) (topRet k) ss)
  | .nil, _, _ => iff_of_true rfl trivial
  | .cons s rest, k, h => Bool.and_eq_true_iff.trans (and_congr (chkS_iff s k h.1) (chkL_iff rest k h.2))
end

/-- **C05, break and return.** A program (functions and handlers at top level) is accepted by the chain walk exactly
when every break is inside a loop of its own function and every return is inside a function or handler and carries a
value exactly when a result type is declared. -/
theorem accepted_iff_control_well_placed (p : Ss) (h : TopOnly p) : chkProg p = true ↔ ctlL false none p :=
  match p, h with
  | .nil, _ => iff_of_true rfl trivial
  | .cons s rest, h =>
    -- a function or handler body is checked below a chain without a loop
    have hs : (chkS s [⟨.prog, none⟩] = true ↔ ctlS false none s) ∧ TopOnly rest :=
      match s, h with
      | .scope (.func _) body, h | .scope .handler body, h => ⟨chkL_iff body _ h.1, h.2⟩
      | .simple, h | .brk, h | .ret _, h | .scope .prog _, h | .scope .branch _, h | .scope .loop _, h => ⟨chkS_iff _ _ h.1, h.2⟩
    Bool.and_eq_true_iff.trans (and_congr hs.1 (accepted_iff_control_well_placed rest hs.2))

theorem misplaced_break_or_return_is_rejected (p : Ss) (h : TopOnly p) (hbad : ¬ ctlL false none p) : chkProg p = false :=
  Bool.eq_false_iff.mpr (mt (accepted_iff_control_well_placed p h).mp hbad)

/-! ### the tie to the source (T1)

What parseBreakStatement and parseReturnStatement consult, extracted from the working tree on every run: inLoop
walks `s = s.outer` over the whole chain and counts while and for statements; a break asks inLoop(p.scope); a return
is judged by p.scope.returnType (absent: not allowed here; otherwise it must accept the type of the value, none for a
bare return); a scope gets its result type from the function (its declared type), the handler (none) or the
enclosing scope. -/

theorem control_sites_as_modelled :
    Gen.inLoopKinds = ["*WhileStmt", "*ForStmt"] ∧ Gen.inLoopWalksOuter = true ∧
    Gen.breakConsults = ["inLoop(p.scope)"] ∧
    Gen.returnConds = ["(p.scope.returnType == nil)", "!p.scope.returnType.accepts(ret.T)", "(ret.Value != nil)"] ∧
    Gen.scopeReturnTypes = ["parseFunc: fd.ReturnType", "parseEventHandler: NONE_TYPE", "newScope: nil", "newScope: outer.returnType"] :=
  ⟨rfl, rfl, rfl, rfl, rfl⟩

/-- `func f:num` / `while true` / `if true` / `break` / `end` / `return 1` / `end` / `return 2` / `end` -/
def good : Ss :=
  .cons (.scope (.func true) (.cons (.scope .loop (.cons (.scope .branch (.cons .brk .nil)) (.cons (.ret true) .nil))) (.cons (.ret true) .nil))) .nil
/-- `if true` / `break` / `end` at top level: a break in a branch, outside every loop -/
def strayBreak : Ss := .cons (.scope .branch (.cons .brk .nil)) .nil
/-- `on down` / `return 1` / `end` -/
def handlerValue : Ss := .cons (.scope .handler (.cons (.ret true) .nil)) .nil

example : TopOnly good ∧ chkProg good = true := by simp [TopOnly, noFnL, noFnS, good]; decide
example : ctlL false none good := (accepted_iff_control_well_placed good (by simp [TopOnly, noFnL, noFnS, good])).mp (by decide)
example : chkProg strayBreak = false := by decide
example : ¬ ctlL false none strayBreak := by simp [ctlL, ctlS, strayBreak]
example : chkProg handlerValue = false := by decide
example : ¬ ctlL false none handlerValue := by simp [ctlL, ctlS, handlerValue]

end EvyV.Ctl
