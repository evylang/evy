import EvyV.Model.Scope
import EvyV.Gen.ScopeSites
/-!
C05, the variable rules: what the parser's bookkeeping of scopes and use marks (Model/Scope.lean) accepts is
well scoped in the sense of a specification that knows nothing of scope chains or marks —

  * every name a statement mentions is declared, earlier in the same block or in an enclosing one (`scopedS`),
  * no name is declared twice in one scope,
  * every declared variable (also a loop variable, a parameter) is USED: some later statement of its block mentions
    it and means THIS declaration, not a variable of the same name declared in between (`usedL`, `fvL`).

`Run` says what a successful run of the bookkeeping does to the stack; every operation, and so the check of a
statement, is a `Step`.
-/
namespace EvyV.Scope

def declOf : St → List Nat
  | .decl x _ => [x]
  | _ => []

/-- newest first, as the scope holds them -/
def declsL : Ss → List Nat
  | .nil => []
  | .cons s rest => declsL rest ++ declOf s

mutual
/-- the names a statement mentions that are not declared inside it -/
def fvS : St → List Nat
  | .use us => us
  | .decl _ us => us
  | .scope ds hd body => hd ++ (fvL body).filter (fun y => !ds.contains y)
/-- the names a statement list mentions and does not itself declare before the mention -/
def fvL : Ss → List Nat
  | .nil => []
  | .cons s rest => fvS s ++ (fvL rest).filter (fun y => !(declOf s).contains y)
end

/-- every variable declared by a statement of the block is meant by a later statement of the block -/
def usedL : Ss → Prop
  | .nil => True
  | .cons s rest => (∀ x ∈ declOf s, x ∈ fvL rest) ∧ usedL rest

mutual
/-- `vis`: the names of the enclosing scopes, `D`: the names declared so far in this scope -/
def scopedS (vis D : List Nat) : St → Prop
  | .use us => ∀ u ∈ us, u ∈ D ∨ u ∈ vis
  | .decl x us => (∀ u ∈ us, u ∈ D ∨ u ∈ vis) ∧ x ∉ D
  | .scope ds hd body =>
    ds.Nodup ∧ (∀ u ∈ hd, u ∉ ds ∧ (u ∈ D ∨ u ∈ vis)) ∧ scopedL (D ++ vis) ds body ∧ usedL body ∧ (∀ x ∈ ds, x ∈ fvL body)
def scopedL (vis D : List Nat) : Ss → Prop
  | .nil => True
  | .cons s rest => scopedS vis D s ∧ scopedL vis (declOf s ++ D) rest
end

/-- newest first -/
def names (s : Sc) : List Nat := s.map (fun v => v.n)

/-- the mark of the newest variable named `x` -/
def flagSc (x : Nat) : Sc → Bool
  | [] => false
  | v :: r => if v.n = x then v.u else flagSc x r

/-- the names of the `i`-th scope from the inside -/
def namesAt : Stk → Nat → List Nat
  | [], _ => []
  | s :: _, 0 => names s
  | _ :: r, i + 1 => namesAt r i

/-- the mark of `x` in the innermost scope -/
def flag0 : Stk → Nat → Bool
  | [], _ => false
  | s :: _, x => flagSc x s

@[simp] theorem names_nil : names [] = [] := rfl
@[simp] theorem names_cons (v : V) (s : Sc) : names (v :: s) = v.n :: names s := rfl
@[simp] theorem namesAt_zero (s : Sc) (r : Stk) : namesAt (s :: r) 0 = names s := rfl
@[simp] theorem namesAt_succ (s : Sc) (r : Stk) (i : Nat) : namesAt (s :: r) (i + 1) = namesAt r i := rfl
@[simp] theorem namesAt_nil (i : Nat) : namesAt [] i = [] := by cases i <;> rfl

theorem hasName_iff (x : Nat) (s : Sc) : hasName x s = true ↔ x ∈ names s := by
  simp only [hasName, names, List.any_eq_true, List.mem_map, beq_iff_eq]

theorem names_markSc (x : Nat) (s : Sc) : names (markSc x s) = names s := by
  induction s with
  | nil => rfl
  | cons v r ih => simp only [markSc]; split <;> simp [ih]

theorem flagSc_false_of_not_mem (x : Nat) (s : Sc) (h : x ∉ names s) : flagSc x s = false := by
  induction s with
  | nil => rfl
  | cons v r ih =>
    simp only [names_cons, List.mem_cons, not_or] at h
    simp [flagSc, Ne.symm h.1, ih h.2]

theorem flagSc_markSc (x y : Nat) (s : Sc) (hx : x ∈ names s) :
    flagSc y (markSc x s) = true ↔ flagSc y s = true ∨ y = x := by
  induction s with
  | nil => cases hx
  | cons v r ih =>
    simp only [markSc]
    split
    · next hv => subst hv; by_cases hy : v.n = y <;> simp [flagSc, hy, eq_comm (a := y)]
    · next hv =>
      simp only [flagSc]
      split
      · next hvy => exact ⟨Or.inl, fun h => h.resolve_right fun e => hv (hvy.trans e)⟩
      · exact ih ((List.mem_cons.mp hx).resolve_left fun e => hv e.symm)

theorem all_used_iff (s : Sc) (hnd : (names s).Nodup) : s.all (fun v => v.u) = true ↔ ∀ x ∈ names s, flagSc x s = true := by
  induction s with
  | nil => simp
  | cons v r ih =>
    obtain ⟨(hv : v.n ∉ names r), hr⟩ := List.nodup_cons.mp hnd
    have : ∀ x ∈ names r, flagSc x (v :: r) = flagSc x r := fun x hx => by
      simp only [flagSc]; exact if_neg fun (e : v.n = x) => hv (e ▸ hx)
    simp only [List.all_cons, Bool.and_eq_true, ih hr, names_cons, List.forall_mem_cons]
    exact and_congr (by simp [flagSc]) (forall₂_congr fun x hx => by rw [this x hx])

/-! `Run N F k k'`, scope by scope from the innermost: the top scope has gained the names `N` (new, none twice), no
other scope has changed its names, and a variable that was there has its mark afterwards exactly if it had it before
or its name is in `F` and no scope further in has a variable of that name. -/

def Run : List Nat → List Nat → Stk → Stk → Prop
  | N, _, [], k' => N = [] ∧ k' = []
  | N, F, s :: r, k' => ∃ s' r', k' = s' :: r' ∧ names s' = N ++ names s ∧ N.Nodup ∧ (∀ x ∈ N, x ∉ names s) ∧
      (∀ y ∈ names s, (flagSc y s' = true ↔ flagSc y s = true ∨ y ∈ F)) ∧
      Run [] (F.filter fun y => !(names s).contains y) r r'

namespace Run

theorem refl : ∀ (k : Stk), Run [] [] k k
  | [] => ⟨rfl, rfl⟩
  | s :: r => ⟨s, r, rfl, rfl, List.nodup_nil, nofun, fun y _ => by simp, refl r⟩

theorem congr {N F G : List Nat} (h : ∀ y, y ∈ F ↔ y ∈ G) : ∀ {k k' : Stk}, Run N F k k' → Run N G k k'
  | [], _, e => e
  | s :: r, _, ⟨s', r', hk, hn, hnd, hfr, hfl, e⟩ =>
    ⟨s', r', hk, hn, hnd, hfr, fun y hy => by rw [hfl y hy, h], e.congr fun y => by simp [h]⟩

theorem nil_iff {N F : List Nat} : ∀ {k k' : Stk}, Run N F k k' → (k' = [] ↔ k = [])
  | [], _, e => by simp [e.2]
  | s :: r, _, ⟨s', r', hk, _⟩ => by simp [hk]

theorem top {N F : List Nat} : ∀ {k k' : Stk}, Run N F k k' → namesAt k' 0 = N ++ namesAt k 0
  | [], _, e => by simp [e.1, e.2]
  | s :: r, _, ⟨s', r', hk, hn, _⟩ => by simp [hk, hn]

theorem rest {N F : List Nat} : ∀ {k k' : Stk}, Run N F k k' → ∀ i, namesAt k' (i + 1) = namesAt k (i + 1)
  | [], _, e, _ => by simp [e.2]
  | s :: r, _, ⟨s', r', hk, _, _, _, _, e⟩, i => by
    cases i with
    | zero => simpa [hk] using e.top
    | succ i => simpa [hk] using e.rest i

theorem flag {N F : List Nat} : ∀ {k k' : Stk}, Run N F k k' → ∀ y ∈ namesAt k 0,
    (flag0 k' y = true ↔ flag0 k y = true ∨ y ∈ F)
  | [], _, _ => nofun
  | s :: r, _, ⟨s', r', hk, _, _, _, hfl, _⟩ => by simpa [hk, flag0] using hfl

/-- the names the first run declares hide those names from the second -/
theorem trans {N1 F1 N2 F2 : List Nat} : ∀ {k k1 k2 : Stk}, Run N1 F1 k k1 → Run N2 F2 k1 k2 →
    Run (N2 ++ N1) (F1 ++ F2.filter (fun y => !N1.contains y)) k k2
  | [], _, _, ⟨h1, h2⟩, e2 => by subst h1 h2; exact ⟨by simp [e2.1], e2.2⟩
  | s :: r, _, _, ⟨s1, r1, hk1, hn1, hnd1, hfr1, hfl1, e1⟩, e2 => by
    subst hk1
    obtain ⟨s2, r2, hk2, hn2, hnd2, hfr2, hfl2, e2⟩ := e2
    refine ⟨s2, r2, hk2, by rw [hn2, hn1, List.append_assoc], ?_, ?_, ?_, ?_⟩
    · exact List.nodup_append.mpr ⟨hnd2, hnd1, fun a ha b hb hab => hfr2 a ha (by rw [hn1, hab]; exact List.mem_append_left _ hb)⟩
    · intro x hx hs
      rcases List.mem_append.mp hx with hx | hx
      · exact hfr2 x hx (by rw [hn1]; exact List.mem_append_right _ hs)
      · exact hfr1 x hx hs
    · intro y hy
      have hN : y ∉ N1 := fun h => hfr1 y h hy
      rw [hfl2 y (by rw [hn1]; exact List.mem_append_right _ hy), hfl1 y hy]
      simp [hN, or_assoc]
    · exact (e1.trans e2).congr fun y => by simp [hn1, and_comm]

theorem pop {N F : List Nat} {k k' : Stk} {s : Sc} (e : Run N F ([] :: k) (s :: k')) : Run [] F k k' := by
  obtain ⟨_, _, hk, _, _, _, _, e⟩ := e
  cases hk
  exact e.congr fun y => by simp

end Run

/-- it succeeds exactly if `P`, and has then done `R` -/
structure Step (o : Option Stk) (P : Prop) (R : Stk → Prop) : Prop where
  ok : o.isSome ↔ P
  post : ∀ {k'}, o = some k' → R k'

namespace Step
variable {o : Option Stk} {P P' Q : Prop} {R R' S : Stk → Prop}

theorem pre (h : Step o P R) (e : P ↔ P') : Step o P' R := ⟨h.ok.trans e, h.post⟩

theorem imp (h : Step o P R) (f : ∀ k', R k' → R' k') : Step o P R' := ⟨h.ok, fun e => f _ (h.post e)⟩

theorem bind {f : Stk → Option Stk} (h1 : Step o P R) (h2 : ∀ k1, R k1 → Step (f k1) Q S) : Step (o.bind f) (P ∧ Q) S := by
  cases o with
  | none => exact ⟨by simpa using fun p => by simpa using h1.ok.mpr p, nofun⟩
  | some a =>
    have h := h2 a (h1.post rfl)
    exact ⟨by simpa [← h1.ok] using h.ok, h.post⟩

end Step

theorem mark_step (x : Nat) : ∀ (k : Stk), Step (mark x k) (∃ i, x ∈ namesAt k i) (Run [] [x] k)
  | [] => ⟨by simp [mark], nofun⟩
  | s :: r => by
    simp only [mark]
    split
    · next hs =>
      have hx := (hasName_iff x s).mp hs
      refine ⟨⟨fun _ => ⟨0, hx⟩, fun _ => rfl⟩, fun h => ?_⟩
      cases h
      exact ⟨_, r, rfl, names_markSc x s, List.nodup_nil, nofun, fun y _ => by simp [flagSc_markSc x y s hx],
        (Run.refl r).congr fun y => by simp [hx]⟩
    · next hs =>
      have hx : x ∉ names s := fun h => hs ((hasName_iff x s).mpr h)
      have ih := mark_step x r
      refine ⟨?_, fun h => ?_⟩
      · rw [Option.isSome_map, ih.ok]
        exact ⟨fun ⟨i, hi⟩ => ⟨i + 1, hi⟩, fun ⟨i, hi⟩ => by cases i with | zero => exact absurd hi hx | succ i => exact ⟨i, hi⟩⟩
      · obtain ⟨r', hr, rfl⟩ := Option.map_eq_some_iff.mp h
        exact ⟨s, r', rfl, rfl, List.nodup_nil, nofun, fun y hy => by simp [show y ≠ x from fun e => hx (e ▸ hy)],
          (ih.post hr).congr fun y => by simp +contextual [hx]⟩

theorem marks_step : ∀ (us : List Nat) (k : Stk), Step (marks us k) (∀ u ∈ us, ∃ i, u ∈ namesAt k i) (Run [] us k)
  | [], k => ⟨by simp [marks], fun h => by cases h; exact Run.refl _⟩
  | x :: xs, k => by
    rw [marks, List.forall_mem_cons]
    refine (mark_step x k).bind fun k1 e => ((marks_step xs k1).pre ?_).imp fun k' e2 => (e.trans e2).congr fun y => by simp
    exact forall₂_congr fun u _ => exists_congr fun i => by cases i <;> simp [e.top, e.rest]

theorem declare_step (x : Nat) : ∀ (k : Stk), Step (declare x k) (k ≠ [] ∧ x ∉ namesAt k 0)
    (fun k' => Run [x] [] k k' ∧ flag0 k' x = false)
  | [] => ⟨by simp [declare], nofun⟩
  | s :: r => by
    simp only [declare]
    split
    · next hs => exact ⟨by simpa using (hasName_iff x s).mp hs, nofun⟩
    · next hs =>
      have hx : x ∉ names s := fun h => hs ((hasName_iff x s).mpr h)
      refine ⟨by simpa using hx, fun h => ?_⟩
      cases h
      exact ⟨⟨_, r, rfl, rfl, by simp, by simpa using hx,
        fun y hy => by simp [flagSc, show x ≠ y from fun e => hx (e ▸ hy)], Run.refl r⟩, by simp [flag0, flagSc]⟩

theorem declares_step : ∀ (ds : List Nat) (k : Stk), k ≠ [] → Step (declares ds k) (ds.Nodup ∧ ∀ x ∈ ds, x ∉ namesAt k 0)
    (fun k' => Run ds.reverse [] k k' ∧ ∀ x ∈ ds, flag0 k' x = false)
  | [], _, _ => ⟨by simp [declares], fun h => by cases h; exact ⟨Run.refl _, nofun⟩⟩
  | x :: xs, k, hk => by
    rw [declares, List.nodup_cons, List.forall_mem_cons]
    refine ((declare_step x k).bind (Q := xs.Nodup ∧ ∀ y ∈ xs, y ≠ x ∧ y ∉ namesAt k 0) fun k1 ⟨e1, f1⟩ => ?_).pre ?_
    · refine ((declares_step xs k1 (mt e1.nil_iff.mp hk)).pre (by rw [e1.top]; simp)).imp fun k' ⟨e2, f2⟩ => ?_
      refine ⟨by simpa using e1.trans e2, List.forall_mem_cons.mpr ⟨?_, f2⟩⟩
      simpa [f1] using e2.flag x (by simp [e1.top])
    · simp only [hk, ne_eq, not_false_eq_true, true_and]
      exact ⟨fun ⟨a, b, c⟩ => ⟨⟨fun h => (c x h).1 rfl, b⟩, a, fun y hy => (c y hy).2⟩,
        fun ⟨⟨a, b⟩, c, d⟩ => ⟨c, b, fun y hy => ⟨fun e => a (e ▸ hy), d y hy⟩⟩⟩

theorem pop_step {N F : List Nat} {k k' : Stk} (e : Run N F ([] :: k) k') :
    Step (pop k') (∀ x ∈ N, flag0 k' x = true) (fun k'' => ∃ s, k' = s :: k'') := by
  obtain ⟨s, r, rfl, hn, hnd, -⟩ := e
  have : (pop (s :: r)).isSome ↔ s.all (fun v => v.u) = true := by simp only [pop]; split <;> simp [*]
  refine ⟨?_, fun h => ?_⟩
  · rw [this, all_used_iff s (by simpa [hn] using hnd), hn]; simp [flag0]
  · simp only [pop] at h
    split at h <;> cases h
    exact ⟨s, rfl⟩

theorem disjoint_iff (hd ds : List Nat) : disjoint hd ds = true ↔ ∀ u ∈ hd, u ∉ ds := by
  simp [disjoint]

/-- the names of the specification are those of the stack -/
structure Ctx (vis D : List Nat) (k : Stk) : Prop where
  top : ∀ y, y ∈ D ↔ y ∈ namesAt k 0
  outer : ∀ y, y ∈ vis ↔ ∃ i, y ∈ namesAt k (i + 1)

theorem Ctx.visible {vis D : List Nat} {k : Stk} (c : Ctx vis D k) (u : Nat) : (∃ i, u ∈ namesAt k i) ↔ u ∈ D ∨ u ∈ vis := by
  rw [c.top, c.outer]
  exact ⟨fun ⟨i, hi⟩ => by cases i with | zero => exact .inl hi | succ i => exact .inr ⟨i, hi⟩,
    fun h => h.elim (fun h => ⟨0, h⟩) fun ⟨i, hi⟩ => ⟨i + 1, hi⟩⟩

theorem Ctx.run {vis D N F : List Nat} {k k' : Stk} (c : Ctx vis D k) (e : Run N F k k') : Ctx vis (N ++ D) k' :=
  ⟨fun y => by simp [e.top, c.top], fun y => by simp [e.rest, c.outer]⟩

theorem Ctx.enter {vis D ds F : List Nat} {k k' : Stk} (c : Ctx vis D k) (e : Run ds.reverse F ([] :: k) k') :
    Ctx (D ++ vis) ds k' :=
  ⟨fun y => by simp [e.top], fun y => by simpa [e.rest] using (c.visible y).symm⟩

mutual
/-- the check of a statement succeeds exactly if the statement is well scoped (a declaration also needs a scope to go
into) -/
theorem chkS_step : ∀ (s : St) (k : Stk) (vis D : List Nat), Ctx vis D k →
    Step (chkS s k) (scopedS vis D s ∧ (k = [] → declOf s = []))
      (fun k' => Run (declOf s) (fvS s) k k' ∧ ∀ x ∈ declOf s, flag0 k' x = false)
  | .use us, k, vis, D, c =>
    ((marks_step us k).pre (by simp [scopedS, declOf, c.visible])).imp fun k' e => ⟨e, nofun⟩
  | .decl x us, k, vis, D, c => by
    simp only [chkS, scopedS, declOf, List.cons_ne_nil, imp_false, and_assoc]
    refine ((marks_step us k).pre (by simp only [c.visible])).bind fun k1 e => ?_
    refine ((declare_step x k1).pre ?_).imp fun k' ⟨e2, f⟩ => ⟨(e.trans e2).congr fun y => by simp [fvS], by simpa using f⟩
    rw [e.top]; simp [c.top, e.nil_iff, and_comm]
  | .scope ds hd body, k, vis, D, c => by
    simp only [chkS, scopedS, declOf, implies_true, and_true]
    split
    · next hdj =>
      have hdis := (disjoint_iff hd ds).mp hdj
      -- ds declared in the new scope, hd looked up, the body, validateScope
      refine ((declares_step ds ([] :: k) (by simp)).pre (by simp)).bind fun k1 ⟨e1, f1⟩ => ?_
      have c1 := c.enter e1
      refine ((marks_step hd k1).pre ?_).bind fun k2 e2 => ?_
      · simp only [c1.visible]
        exact forall₂_congr fun u hu => by simp [hdis u hu]
      have c2 := c.enter (e1.trans e2)
      have hk2 : k2 ≠ [] := mt (e1.trans e2).nil_iff.mp (by simp)
      refine ((chkL_step body k2 _ ds c2).pre (and_iff_left fun h => absurd h hk2)).bind fun k3 ⟨e3, u3⟩ => ?_
      -- the scope that is left: its names are the declarations of the body and ds, none twice
      have e := (e1.trans e2).trans e3
      refine ((pop_step e).pre ?_).imp fun k' ⟨s3, hs3⟩ => ⟨?_, nofun⟩
      · rw [List.forall_mem_append, u3]
        refine and_congr_right fun _ => ?_
        simp only [List.nil_append, List.mem_reverse]
        refine forall₂_congr fun x hx => ?_
        rw [e3.flag x ((c2.top x).mp hx), e2.flag x (by simp [e1.top, hx]), f1 x hx]
        simp [show x ∉ hd from fun h => hdis x h hx]
      · subst hs3
        exact e.pop.congr fun y => by simp [fvS, and_iff_left_of_imp (hdis y)]
    · next hdj =>
      refine ⟨?_, nofun⟩
      simp only [Option.isSome_none, Bool.false_eq_true, false_iff]
      exact fun ⟨_, h, _⟩ => hdj ((disjoint_iff hd ds).mpr fun u hu => (h u hu).1)
theorem chkL_step : ∀ (ss : Ss) (k : Stk) (vis D : List Nat), Ctx vis D k →
    Step (chkL ss k) (scopedL vis D ss ∧ (k = [] → declsL ss = []))
      (fun k' => Run (declsL ss) (fvL ss) k k' ∧ (usedL ss ↔ ∀ x ∈ declsL ss, flag0 k' x = true))
  | .nil, _, _, _, _ => ⟨by simp [chkL, scopedL, declsL], fun h => by cases h; exact ⟨Run.refl _, by simp [usedL, declsL]⟩⟩
  | .cons s rest, k, vis, D, c => by
    simp only [chkL, scopedL, declsL]
    refine ((chkS_step s k vis D c).bind (Q := scopedL vis (declOf s ++ D) rest ∧ (k = [] → declsL rest = []))
      fun k1 ⟨e1, f1⟩ => ?_).pre ?_
    · refine ((chkL_step rest k1 vis _ (c.run e1)).pre (by rw [e1.nil_iff])).imp fun k' ⟨e2, u2⟩ => ⟨e1.trans e2, ?_⟩
      simp only [usedL, List.forall_mem_append, u2]
      refine and_comm.trans (and_congr_right fun _ => forall₂_congr fun x hx => ?_)
      rw [e2.flag x (by simp [e1.top, hx]), f1 x hx]
      simp
    · simp only [List.append_eq_nil_iff]
      exact ⟨fun ⟨⟨a, b⟩, c, d⟩ => ⟨⟨a, c⟩, fun h => ⟨d h, b h⟩⟩, fun ⟨⟨a, c⟩, h⟩ => ⟨⟨a, fun e => (h e).2⟩, c, fun e => (h e).1⟩⟩
end

/-- `chkS_step.ok`, left to right, `Ctx` written out -/
theorem scopedS_of : ∀ (s : St) (k k' : Stk), chkS s k = some k' → ∀ (vis D : List Nat),
    (∀ y, y ∈ D ↔ y ∈ namesAt k 0) → (∀ y, y ∈ vis ↔ ∃ i, y ∈ namesAt k (i + 1)) → scopedS vis D s :=
  fun s k _ h vis D hD hv => ((chkS_step s k vis D ⟨hD, hv⟩).ok.mp (Option.isSome_of_eq_some h)).1

/-- a program is checked like the body of a scope without names of its own, entered on the empty chain -/
theorem chkProg_iff (p : Ss) : chkProg p = true ↔ scopedS [] [] (.scope [] [] p) :=
  (chkS_step (.scope [] [] p) [] [] [] ⟨by simp, by simp⟩).ok.trans (and_iff_left fun _ => rfl)

/-- **C05, variable rules.** A program the bookkeeping accepts mentions only declared names, declares no name
twice in a scope, and uses every variable it declares — at every depth. -/
theorem accepted_program_is_well_scoped (p : Ss) (h : chkProg p = true) : scopedL [] [] p ∧ usedL p := by
  simpa [scopedS] using (chkProg_iff p).mp h

theorem rule_breaking_program_is_rejected (p : Ss) (h : ¬ (scopedL [] [] p ∧ usedL p)) : chkProg p = false :=
  Bool.eq_false_iff.mpr (mt (accepted_program_is_well_scoped p) h)

/-! ### the tie to the source (T1)

The scope operations of every function of pkg/parser that touches the scope chain, extracted on every run
(Gen/ScopeSites.lean), are those Model/Scope.lean transcribes: a scope is pushed BEFORE the header is read
and left after the block; a for statement declares its loop variable before its range is read; an inferred
declaration reads its value before it declares; validateScope runs at the end of every block and of the program;
no other function touches the chain or a mark. -/

theorem scope_sites_as_modelled :
    Gen.scopeSites = [
      ("parseProgram", ["push", "mark", "set", "stmt", "stmt", "stmt", "validate"]),
      ("parseFunc", ["push", "defer-pop", "params", "block"]),
      ("parseEventHandler", ["push", "defer-pop", "params", "block"]),
      ("addParamsToScope", ["declTest", "set", "declTest", "set"]),
      ("addEventParamsToScope", ["declTest", "set"]),
      ("parseIfStatement", ["push", "condBlock", "pop", "push", "condBlock", "pop", "push", "block", "pop"]),
      ("parseIfConditionalBlock", ["header", "block"]),
      ("parseWhileStatement", ["push", "defer-pop", "header", "block"]),
      ("parseForStatement", ["push", "defer-pop", "declTest", "set", "header", "block"]),
      ("parseBlockWithEndTokens", ["stmt", "validate"]),
      ("parseTypedDeclStatement", ["declTest", "set"]),
      ("parseInferredDeclStatement", ["header", "declTest", "set"]),
      ("parseAssignmentTarget", ["get", "mark"]),
      ("lookupVar", ["get", "mark"]),
      ("validateVarDecl", ["inLocal"]),
      ("validateScope", []),
      ("pushScope", ["to-given"]),
      ("pushScopeWithNode", ["push"]),
      ("popScope", ["to-outer"]),
      ("get", ["outer.get"]),
      ("set", []),
      ("inLocalScope", [])] ∧
    Gen.scopeSitesElsewhere = [] := ⟨rfl, rfl⟩

/-- `x := 1` / `for i := range x` / `print i` / `end` -/
def good : Ss := .cons (.decl 0 []) (.cons (.scope [1] [0] (.cons (.use [1]) .nil)) .nil)
/-- `x := 1` / `if true` / `x := 2` / `print x` / `end`: the outer x is not used — the inner statement means the inner x -/
def shadowed : Ss := .cons (.decl 0 []) (.cons (.scope [] [] (.cons (.decl 0 []) (.cons (.use [0]) .nil))) .nil)
/-- `if true` / `y := 1` / `print y` / `end` / `print y`: y is not visible after its block -/
def leaked : Ss := .cons (.scope [] [] (.cons (.decl 1 []) (.cons (.use [1]) .nil))) (.cons (.use [1]) .nil)
/-- `func f a a` (parameters are the declarations of the scope) -/
def twice : Ss := .cons (.scope [2, 2] [] (.cons (.use [2]) .nil)) .nil

example : chkProg good = true := by decide
example : scopedL [] [] good ∧ usedL good := accepted_program_is_well_scoped good (by decide)
example : chkProg shadowed = false := by decide
example : ¬ usedL shadowed := by simp [usedL, shadowed, declOf, fvL, fvS]
example : chkProg leaked = false := by decide
example : ¬ scopedL [] [] leaked := by simp [scopedL, scopedS, leaked, declOf]
example : chkProg twice = false := by decide
example : ¬ scopedL [] [] twice := by simp [scopedL, scopedS, twice]

end EvyV.Scope
