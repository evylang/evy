import EvyV.Props.C05Scope
/-!
The converse of accepted_program_is_well_scoped: the bookkeeping of Model/Scope.lean rejects nothing that is well
scoped; on the model, the variable rules are exactly the three of the specification.  The program-level results are
one line each from `chkProg_iff` (Props/C05Scope.lean); what is proved here is `fvS_visible` / `fvL_visible`, an
argument about the specification alone.
-/
namespace EvyV.Scope

/-- `chkS_step.ok`, right to left, `Ctx` written out -/
theorem chkS_complete : ∀ (s : St) (k : Stk) (vis D : List Nat), k ≠ [] →
    (∀ y, y ∈ D ↔ y ∈ namesAt k 0) → (∀ y, y ∈ vis ↔ ∃ i, y ∈ namesAt k (i + 1)) → scopedS vis D s →
    ∃ k', chkS s k = some k' :=
  fun s k vis D hk hD hv hs => Option.isSome_iff_exists.mp ((chkS_step s k vis D ⟨hD, hv⟩).ok.mpr ⟨hs, fun h => absurd h hk⟩)

theorem well_scoped_program_is_accepted (p : Ss) (hs : scopedL [] [] p) (hu : usedL p) : chkProg p = true :=
  (chkProg_iff p).mpr (by simpa [scopedS] using ⟨hs, hu⟩)

/-! the two readings of "declared" agree: a well scoped block has no free name beyond what is visible -/

mutual
theorem fvS_visible : ∀ (s : St) (vis D : List Nat), scopedS vis D s → ∀ y ∈ fvS s, y ∈ D ∨ y ∈ vis
  | .use us, vis, D, h, y, hy => h y hy
  | .decl x us, vis, D, h, y, hy => h.1 y hy
  | .scope ds hd body, vis, D, h, y, hy => by
    simp only [fvS, List.mem_append, List.mem_filter, List.contains_eq_mem, Bool.not_eq_true', decide_eq_false_iff_not] at hy
    rcases hy with hy | ⟨hy, hnd⟩
    · exact (h.2.1 y hy).2
    · rcases fvL_visible body (D ++ vis) ds h.2.2.1 y hy with h1 | h1
      · exact absurd h1 hnd
      · exact List.mem_append.mp h1
theorem fvL_visible : ∀ (ss : Ss) (vis D : List Nat), scopedL vis D ss → ∀ y ∈ fvL ss, y ∈ D ∨ y ∈ vis
  | .nil, _, _, _, y, hy => by simp [fvL] at hy
  | .cons s rest, vis, D, h, y, hy => by
    simp only [fvL, List.mem_append, List.mem_filter, List.contains_eq_mem, Bool.not_eq_true', decide_eq_false_iff_not] at hy
    rcases hy with hy | ⟨hy, hnd⟩
    · exact fvS_visible s vis D h.1 y hy
    · rcases fvL_visible rest vis (declOf s ++ D) h.2 y hy with h1 | h1
      · rcases List.mem_append.mp h1 with h2 | h2
        · exact absurd h2 hnd
        · exact Or.inl h2
      · exact Or.inr h1
end

/-- an accepted program is closed: every name it mentions is bound by a declaration of the program -/
theorem accepted_program_is_closed (p : Ss) (h : chkProg p = true) : fvL p = [] :=
  List.eq_nil_iff_forall_not_mem.mpr fun y hy =>
    (fvL_visible p [] [] (accepted_program_is_well_scoped p h).1 y hy).elim nofun nofun

/-- **the variable rules, exactly**: the bookkeeping accepts a program iff every name it mentions is declared, no
scope declares a name twice, and every declared variable is used -/
theorem accepted_iff_well_scoped (p : Ss) : chkProg p = true ↔ scopedL [] [] p ∧ usedL p :=
  ⟨accepted_program_is_well_scoped p, fun h => well_scoped_program_is_accepted p h.1 h.2⟩

end EvyV.Scope
