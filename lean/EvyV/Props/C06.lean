import EvyV.Props.C07
import EvyV.Props.C01Pratt
/-!
C06, the theorems named for the property: the blank-line pass (`EvyV.Layout`; proved in Props/C07.lean) adds and
removes nothing but blank lines; printing the tree of an expression writes the tokens consumed, and they are read back
as the same tree (Props/C01Pratt.lean). That each statement is printed with its own tokens is established per input by
the correspondence check.
-/
namespace EvyV.C06
open EvyV.Layout

/-- every statement, declaration and comment line of the input is in the output, once, in order -/
theorem layout_keeps_items (l : List K) : (fmtK l).filter (· ≠ .blank) = l.filter (· ≠ .blank) :=
  C07.fmtK_keeps_items l

/-- every element and comment of a multi-line literal is in the output, once, in order -/
theorem literal_keeps_items (l : List M) : (fmtM 0 l).filter (· ≠ .nl) = l.filter (· ≠ .nl) :=
  C07.fmtM_keeps_items 0 l

/-- a blank line is only ever written between two items that both stay: the output never starts with
an inserted blank line -/
theorem no_blank_invented_at_start (l : List K) : (fmtK l).head? = l.head? := C07.head_fmtK l

example : (fmtK [.comment, .stmt, .func, .comment, .blank, .blank, .func]).filter (· ≠ .blank) =
    [.comment, .stmt, .func, .comment, .func] := by decide

/-! format.go prints a unary expression as operator + operand, a binary expression as left, operator,
right, an index expression as left `[` index `]`, a group as `(` expression `)`: the token kinds of
the printed text are `Pratt.toks` of the tree. -/

open EvyV.Pratt in
/-- no token of an accepted expression is dropped, added or rewritten by printing its tree: for every
token sequence, the tokens of the tree the parser built, followed by what it left, are the input -/
theorem expr_format_keeps_tokens (ts : List Tok) (e : E) (rest : List Tok) (h : parse ts = some (e, rest)) :
    toks e ++ rest = ts := (parse_sound ts e rest h).2.1.symm

open EvyV.Pratt in
/-- the printed form of ANY precedence-respecting tree is read back as that tree: the printer never has
to add parentheses, and its output never binds differently (in particular for every tree the parser
returns, which `parse_sound` shows to be precedence-respecting) -/
theorem formatted_expr_reparses_to_same_tree (ts : List Tok) (e : E) (rest : List Tok) (h : parse ts = some (e, rest)) :
    parse (toks e ++ rest) = some (e, rest) :=
  (parse_sound ts e rest h).2.1 ▸ h

open EvyV.Pratt in
/-- a printer that dropped the parentheses of a group would change the reading: the group is needed -/
example : parse (toks (.bin .star (.group (.bin .plus (.atom 0) (.atom 1))) (.atom 2))) =
      some (.bin .star (.group (.bin .plus (.atom 0) (.atom 1))) (.atom 2), []) ∧
    parse (toks (.bin .star (.bin .plus (.atom 0) (.atom 1)) (.atom 2))) ≠
      some (.bin .star (.bin .plus (.atom 0) (.atom 1)) (.atom 2), []) := by decide

end EvyV.C06
