import EvyV.Props.C01PrattW
import EvyV.Model.PrattFmt
/-!
C06 for expressions WITH whitespace: the layout the formatter writes for the tree the parser built is accepted again,
in the same kind of context, and read back as the same tree. "Layout" here is `Pratt.layout` (Model/PrattFmt.lean),
the spacing of one expression; the blank-line pass `EvyV.Layout` (Props/C07.lean, Props/C06.lean) is another thing.
The last three theorems are C07's for one expression: its layout is idempotent, canonical and accepted.
-/
namespace EvyV.Pratt

theorem layout_un (wss first : Bool) (u : UnOp) (e : E) :
    layout wss first (.un u e) = ⟨first, u.tok⟩ :: layout wss false e := by cases u <;> rfl

theorem er_append (a b : List WTok) : er (a ++ b) = er a ++ er b := by simp [er]

theorem er_layout (e : E) : ∀ (wss first : Bool), er (layout wss first e) = toks e := by
  induction e with
  | un u e ih => intro wss first; simp [layout_un, toks_un, ih]
  | _ => intros; simp [layout, toks, er_append, *]

theorem layout_length (e : E) (wss first : Bool) : (layout wss first e).length = (toks e).length := by
  have := congrArg List.length (er_layout e wss first)
  simpa [er] using this

theorem layout_head (e : E) : ∀ (wss first : Bool), ∃ t tl, layout wss first e = ⟨first, t⟩ :: tl ∧ t ≠ .colon ∧ t ≠ .rbracket := by
  -- every form but the three prefix forms begins with its left operand
  have left : ∀ {l : E} {wss first : Bool} (sfx : List WTok),
      (∃ t tl, layout wss first l = ⟨first, t⟩ :: tl ∧ t ≠ .colon ∧ t ≠ .rbracket) →
      ∃ t tl, layout wss first l ++ sfx = ⟨first, t⟩ :: tl ∧ t ≠ .colon ∧ t ≠ .rbracket :=
    fun sfx ⟨t, tl, h, h1, h2⟩ => ⟨t, tl ++ sfx, by rw [h]; rfl, h1, h2⟩
  induction e with
  | atom n => intros; exact ⟨_, _, rfl, by simp, by simp⟩
  | un u e _ => intro wss first; cases u <;> exact ⟨_, _, rfl, by simp, by simp⟩
  | group e _ => intros; exact ⟨_, _, rfl, by simp, by simp⟩
  | bin _ l _ ihl _ | index l _ ihl _ | sliceAll l ihl | sliceTo l _ ihl _ | sliceFrom l _ ihl _ | slice l _ _ ihl _ _ | dot l _ ihl
  | assert l _ ihl => intro wss first; simp only [layout, List.append_assoc]; exact left _ (ihl wss first)

theorem headWs_layout (e : E) (wss first : Bool) (rest : List WTok) : headWs (layout wss first e ++ rest) = first := by
  obtain ⟨t, tl, h, _, _⟩ := layout_head e wss first
  rw [h]; rfl

theorem layout_ne_colon (e : E) (r : List WTok) (tl : List Tok) : (layout false false e ++ r).map WTok.tok ≠ .colon :: tl := by
  obtain ⟨t, _, h, h1, _⟩ := layout_head e false false
  rw [h]; intro h'; exact h1 (List.cons.inj h').1

theorem layout_ne_rbracket (e : E) (r : List WTok) (tl : List Tok) : (layout false false e ++ r).map WTok.tok ≠ .rbracket :: tl := by
  obtain ⟨t, _, h, _, h2⟩ := layout_head e false false
  rw [h]; intro h'; exact h2 (List.cons.inj h').1

/-- what may follow for the loop to end there: `hpW wss rest ≤ rlvl e` written out (`hpW_le_iff`) -/
def RestOK (wss : Bool) (e : E) (rest : List WTok) : Prop :=
  (wss = true ∧ headWs rest = true) ∨ hp (er rest) ≤ rlvl e

/-- the statement of `completeW` with any larger budget. Two units per token: a token is consumed by at most one call
of `parseExprW` and one of `loopW` -/
def Reads (e : E) : Prop := ∀ (wss first : Bool) (f g p : Nat) (rest : List WTok) (x : E × List WTok),
    p < llvl e → hpW wss rest ≤ rlvl e → loopW wss f p e rest = some x → f + 2 * (toks e).length ≤ g →
    parseExprW wss g p (layout wss first e ++ rest) = some x

theorem Reads.operand {e : E} (h : Reads e) {wss first : Bool} {g p : Nat} {rest : List WTok} (hp' : p < llvl e)
    (hr : hpW wss rest ≤ rlvl e) (hs : hpW wss rest ≤ p) (hg : 2 * (toks e).length + 1 ≤ g) :
    parseExprW wss g p (layout wss first e ++ rest) = some (e, rest) :=
  h wss first 1 g p rest _ hp' hr (loopW_stop hs) (by omega)

/-- one iteration of the loop (`step`) takes `l` and what follows it to `e'`; `n` is the budget that iteration hands to
the operands it parses -/
theorem Reads.extend {l e' : E} (h : Reads l) {wss first w : Bool} {f g p k : Nat} (n : Nat) {t : Tok} {tl rest : List WTok}
    {x : E × List WTok} (hp' : p < k) (hl : k ≤ llvl l) (hr : t.prec ≤ rlvl l)
    (step : loopW wss (f + n + 1) p l (⟨w, t⟩ :: tl) = loopW wss (f + n) p e' rest)
    (hx : loopW wss f p e' rest = some x) (hg : f + n + 1 + 2 * (toks l).length ≤ g) :
    parseExprW wss g p (layout wss first l ++ ⟨w, t⟩ :: tl) = some x :=
  h wss first (f + n + 1) g p _ x (Nat.lt_of_lt_of_le hp' hl) (Nat.le_trans (hpW_cons_le ..) hr)
    (step ▸ mono_loopW (Nat.le_add_right f n) hx) hg

theorem Reads.bracketed {e : E} (h : Reads e) {w : Bool} {t : Tok} {rest : List WTok} {g : Nat} (ht : t.prec = 0)
    (hg : 2 * (toks e).length + 1 ≤ g) :
    parseExprW false g 0 (layout false false e ++ ⟨w, t⟩ :: rest) = some (e, ⟨w, t⟩ :: rest) :=
  h.operand (llvl_pos e) (show t.prec ≤ _ from ht ▸ Nat.zero_le _) (show t.prec ≤ 0 from Nat.le_of_eq ht) hg

theorem reads (e : E) : WF e → Reads e := by
  induction e <;> intro hw wss first f g p rest x hp' hr h hg <;>
    simp only [WF, llvl, rlvl, toks_un, layout_un, toks, layout, List.length_append, List.length_cons, List.length_nil,
      List.append_assoc, List.cons_append, List.nil_append] at hw hp' hr hg ⊢
  case atom n =>
    obtain ⟨g, rfl⟩ : ∃ g', g = g' + 1 := ⟨g - 1, by omega⟩
    rw [parseExprW]
    exact mono_loopW (by omega) h
  case un u e ih =>
    obtain ⟨g, rfl⟩ : ∃ g', g = g' + 1 := ⟨g - 1, by omega⟩
    rw [parseExprW_un (headWs_layout e wss false rest)
      ((ih hw.1).operand hw.2 (Nat.le_trans hr (Nat.min_le_right ..)) (Nat.le_trans hr (Nat.min_le_left ..)) (by omega))]
    exact mono_loopW (by omega) h
  case bin o l r ihl ihr =>
    obtain ⟨hwl, hwr, hll, hrl, hlr⟩ := hw
    refine (ihl hwl).extend (2 * (toks r).length + 1) hp' hll hrl
      (loopW_op (Bool.and_not_self _) hp' (by rw [headWs_layout, Bool.and_not_self]) ?_) h (by omega)
    exact (ihr hwr).operand hlr (Nat.le_trans hr (Nat.min_le_right ..)) (Nat.le_trans hr (Nat.min_le_left ..)) (Nat.le_add_left ..)
  case group e ih =>
    obtain ⟨g, rfl⟩ : ∃ g', g = g' + 1 := ⟨g - 1, by omega⟩
    rw [parseExprW_group ((ih hw).bracketed rfl (by omega))]
    exact mono_loopW (by omega) h
  case index l i ihl ihi =>
    obtain ⟨hwl, hwi, hll, hrl⟩ := hw
    exact (ihl hwl).extend (2 * (toks i).length + 1) hp' hll hrl
      ((loopW_lbracket hp').trans (bracketW_index l i (layout_ne_colon i _) ((ihi hwi).bracketed rfl (Nat.le_add_left ..)))) h (by omega)
  case sliceAll l ihl =>
    exact (ihl hw.1).extend 0 hp' hw.2.1 hw.2.2 ((loopW_lbracket hp').trans (bracketW_sliceAll l)) h (by omega)
  case sliceTo l b ihl ihb =>
    obtain ⟨hwl, hwb, hll, hrl⟩ := hw
    exact (ihl hwl).extend (2 * (toks b).length + 1) hp' hll hrl
      ((loopW_lbracket hp').trans (bracketW_sliceTo l b (layout_ne_rbracket b _) ((ihb hwb).bracketed rfl (Nat.le_add_left ..)))) h (by omega)
  case sliceFrom l a ihl iha =>
    obtain ⟨hwl, hwa, hll, hrl⟩ := hw
    exact (ihl hwl).extend (2 * (toks a).length + 1) hp' hll hrl
      ((loopW_lbracket hp').trans (bracketW_sliceFrom l a (layout_ne_colon a _) ((iha hwa).bracketed rfl (Nat.le_add_left ..)))) h (by omega)
  case slice l a b ihl iha ihb =>
    obtain ⟨hwl, hwa, hwb, hll, hrl⟩ := hw
    exact (ihl hwl).extend (2 * (toks a).length + 2 * (toks b).length + 1) hp' hll hrl
      ((loopW_lbracket hp').trans (bracketW_slice l a b (layout_ne_colon a _) (layout_ne_rbracket b _)
        ((iha hwa).bracketed rfl (by omega)) ((ihb hwb).bracketed rfl (by omega)))) h (by omega)
  case dot l k ihl =>
    exact (ihl hw.1).extend 0 hp' hw.2.1 hw.2.2 (loopW_dot hp') h (by omega)
  case assert l t ihl =>
    exact (ihl hw.1).extend 0 hp' hw.2.1 hw.2.2 (loopW_dot hp') h (by omega)

theorem completeW (e : E) : WF e → ∀ (wss first : Bool) (f p : Nat) (rest : List WTok) (x : E × List WTok),
    p < llvl e → RestOK wss e rest → loopW wss f p e rest = some x →
    parseExprW wss (f + 2 * (toks e).length) p (layout wss first e ++ rest) = some x :=
  fun hw wss first f p rest x hp' hr h => reads e hw wss first f _ p rest x hp' ((hpW_le_iff ..).2 hr) h (Nat.le_refl _)

/-- **the formatter's layout of any precedence-respecting tree is read back as that tree**, in a
whitespace-sensitive context (tight operators) and outside one (spaced operators) alike, whatever follows the
expression (whitespace, in an argument list; a token that does not continue an expression otherwise) -/
theorem layout_reparses (wss first : Bool) (e : E) (rest : List WTok) (hw : WF e)
    (hr : (wss = true ∧ headWs rest = true) ∨ hp (er rest) = 0) :
    parseW wss (layout wss first e ++ rest) = some (e, rest) := by
  have h0 : hpW wss rest ≤ 0 := (hpW_le_iff ..).2 (hr.imp_right Nat.le_of_eq)
  exact (reads e hw).operand (llvl_pos e) (Nat.le_trans h0 (Nat.zero_le _)) h0
    (by simp only [List.length_append, layout_length]; omega)

/-- **format, then parse again**: whatever the parser accepted (in either mode), the formatter's layout of the
tree it built — followed by what it left — is accepted in the same mode and gives the same tree and the same
rest. The formatter neither needs extra parentheses nor may it add a space in an argument list. -/
theorem formatted_expression_is_read_back (wss first : Bool) (ts : List WTok) (e : E) (r : List WTok)
    (h : parseW wss ts = some (e, r)) : parseW wss (layout wss first e ++ r) = some (e, r) := by
  obtain ⟨hw, _, hs⟩ := parseW_sound wss ts e r h
  exact layout_reparses wss first e r hw hs

/-- and it writes exactly the tokens that were consumed -/
theorem layout_keeps_tokens (wss first : Bool) (ts : List WTok) (e : E) (r : List WTok)
    (h : parseW wss ts = some (e, r)) : er (layout wss first e ++ r) = er ts := by
  obtain ⟨_, heq, _⟩ := parseW_sound wss ts e r h
  rw [er_append, er_layout, heq]

/-- **idempotence**: formatting the formatted expression gives the same layout again (the tree read back from
the layout is the tree that was laid out) -/
theorem layout_idempotent (wss first : Bool) (ts : List WTok) (e : E) (r : List WTok) (h : parseW wss ts = some (e, r)) :
    ∃ e', parseW wss (layout wss first e ++ r) = some (e', r) ∧ layout wss first e' = layout wss first e :=
  ⟨e, formatted_expression_is_read_back wss first ts e r h, rfl⟩

/-- **canonical form**: outside whitespace-sensitive contexts two accepted texts that differ only in optional
whitespace (same token kinds) are formatted to the same layout -/
theorem layout_canonical (first : Bool) (ts ts' : List WTok) (e e' : E) (r r' : List WTok) (hk : er ts = er ts')
    (h : parseW false ts = some (e, r)) (h' : parseW false ts' = some (e', r')) :
    layout false first e = layout false first e' := by
  rw [(layout_irrelevant ts ts' e e' r r' hk h h').1]

/-- the layout has no whitespace before `[`, `]`, `:`, `.` and after a unary operator, and exactly the operator
spacing of its mode: it is accepted by the parser it came from (no "unexpected whitespace" error is possible) -/
theorem layout_accepted (wss first : Bool) (e : E) (hw : WF e) : parseW wss (layout wss first e) = some (e, []) := by
  simpa using layout_reparses wss first e [] hw (Or.inr rfl)

/-! examples: `a-b` as an argument stays tight and is one argument; with spaces around the operator (what a
formatter that ignored the context would write) the same tokens are two arguments and a stray operator -/
private def A' (n : Nat) (ws : Bool := false) : WTok := ⟨ws, .atom n⟩

example : layout true false (.bin .minus (.atom 0) (.atom 1)) = [A' 0, ⟨false, .op .minus⟩, A' 1] := by decide
example : layout false false (.bin .minus (.atom 0) (.atom 1)) = [A' 0, ⟨true, .op .minus⟩, A' 1 true] := by decide
example : parseW true (layout true false (.bin .minus (.atom 0) (.atom 1))) = some (.bin .minus (.atom 0) (.atom 1), []) := by decide
example : parseW true (layout false false (.bin .minus (.atom 0) (.atom 1))) ≠ some (.bin .minus (.atom 0) (.atom 1), []) := by decide
example : layout true false (.bin .and (.group (.bin .or (.atom 0) (.atom 1))) (.atom 2)) =
    [⟨false, .lparen⟩, A' 0, ⟨true, .op .or⟩, A' 1 true, ⟨false, .rparen⟩, ⟨false, .op .and⟩, A' 2] := by decide

end EvyV.Pratt
