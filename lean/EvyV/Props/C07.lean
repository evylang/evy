import EvyV.Model.Layout
/-!
C07 (the part that is logic): the formatter's blank-line policy, for EVERY sequence of items of any
length: formatting is idempotent, never leaves two consecutive blank lines, and the length of
blank-line runs in the input does not matter. Nothing but blank lines is added or removed (C06).
Everything that looks at a list is stated through its `head?`, which `fmtK` and `squeeze` keep: the
output of `fmtK` is never taken apart.
-/
namespace EvyV.C07
open EvyV.Layout

theorem commentsThenFunc_comment (l : List K) :
    commentsThenFunc (.comment :: l) = (l.head? == some .func || commentsThenFunc l) := by
  rcases l with _ | ⟨_ | _ | _ | _, _⟩ <;> rfl

theorem needBlank_ext {x : K} {l l' : List K} (hh : l.head? = l'.head?)
    (hc : commentsThenFunc l = commentsThenFunc l') : needBlank x l = needBlank x l' := by
  rcases l with _ | ⟨y, ys⟩ <;> rcases l' with _ | ⟨y', ys'⟩ <;> cases hh
  · rfl
  · cases x <;> cases y <;> first | rfl | exact hc

theorem needBlank_head {x : K} {l : List K} (h : needBlank x l = true) : l.head? ≠ some .blank := by
  intro e; obtain ⟨r, rfl⟩ := List.head?_eq_some_iff.1 e; cases x <;> cases h

/-- the shape in which `fun_induction` hands over "does not start with a blank line" -/
theorem head_ne_blank {l : List K} (h : ∀ r, l = .blank :: r → False) : l.head? ≠ some .blank :=
  fun e => (List.head?_eq_some_iff.1 e).elim h

section congr
/- `g`: `fmtK`, `squeeze` -/
variable {g : List K → List K} (hh : ∀ l, (g l).head? = l.head?)
  (hc : ∀ l, g (.comment :: l) = .comment :: g l)
include hh hc

theorem commentsThenFunc_congr (l : List K) : commentsThenFunc (g l) = commentsThenFunc l := by
  induction l with
  | nil => rw [List.head?_eq_none_iff.1 (hh [])]
  | cons x r ih =>
    obtain ⟨zs, h⟩ := List.head?_eq_some_iff.1 (hh (x :: r))
    cases x with
    | comment => rw [hc, commentsThenFunc_comment, commentsThenFunc_comment, hh, ih]
    | _ => rw [h]; rfl

theorem needBlank_congr (x : K) (l : List K) : needBlank x (g l) = needBlank x l :=
  needBlank_ext (hh l) (commentsThenFunc_congr hh hc l)

end congr

theorem head_fmtK (l : List K) : (fmtK l).head? = l.head? := by
  fun_induction fmtK l <;> first | rfl | assumption

theorem fmtK_blank {l : List K} (h : l.head? ≠ some .blank) : fmtK (.blank :: l) = .blank :: fmtK l := by
  rcases l with _ | ⟨_ | _ | _ | _, _⟩ <;> first | rfl | exact absurd rfl h

theorem fmtK_cons {x : K} (hx : x ≠ .blank) (rest : List K) :
    fmtK (x :: rest) = if needBlank x rest then x :: .blank :: fmtK rest else x :: fmtK rest := by
  cases x <;> first | rfl | exact absurd rfl hx

theorem commentsThenFunc_fmtK (l : List K) : commentsThenFunc (fmtK l) = commentsThenFunc l :=
  commentsThenFunc_congr head_fmtK (fun _ => rfl) l

theorem needBlank_fmtK (x : K) (l : List K) : needBlank x (fmtK l) = needBlank x l :=
  needBlank_congr head_fmtK (fun _ => rfl) x l

/-- **idempotence**: formatting the formatted text changes nothing -/
theorem fmtK_idempotent (l : List K) : fmtK (fmtK l) = fmtK l := by
  fun_induction fmtK l with
  | case1 => rfl
  | case2 rest ih => exact ih
  | case3 rest h ih => rw [fmtK_blank (head_fmtK rest ▸ head_ne_blank h), ih]
  | case4 x rest hx1 hx2 hn ih =>
    -- no blank is written before a blank (`needBlank_head`): `x` gets no second one
    rw [fmtK_cons hx2, if_neg (needBlank_head · rfl), fmtK_blank (head_fmtK rest ▸ needBlank_head hn), ih]
  | case5 x rest hx1 hx2 hn ih => rw [fmtK_cons hx2, needBlank_fmtK, ih, if_neg hn]

def NoDoubleBlank : List K → Prop
  | .blank :: .blank :: _ => False
  | _ :: rest => NoDoubleBlank rest
  | [] => True

theorem noDoubleBlank_cons {x : K} {l : List K} (h : x = .blank → l.head? ≠ some .blank)
    (h' : NoDoubleBlank l) : NoDoubleBlank (x :: l) := by
  cases x with
  | blank =>
    rcases l with _ | ⟨y, r⟩
    · exact h'
    · cases y <;> first | exact h' | exact absurd rfl (h rfl)
  | _ => exact h'

/-- **no two consecutive blank lines** in the output -/
theorem fmtK_noDoubleBlank (l : List K) : NoDoubleBlank (fmtK l) := by
  fun_induction fmtK l with
  | case1 => trivial
  | case2 rest ih => exact ih
  | case3 rest h ih => exact noDoubleBlank_cons (fun _ => head_fmtK rest ▸ head_ne_blank h) ih
  | case4 x rest hx1 hx2 hn ih =>
    exact noDoubleBlank_cons (absurd · hx2) (noDoubleBlank_cons (fun _ => head_fmtK rest ▸ needBlank_head hn) ih)
  | case5 x rest hx1 hx2 hn ih => exact noDoubleBlank_cons (absurd · hx2) ih

/-- **nothing but blank lines is added or removed** (the layout part of C06) -/
theorem fmtK_keeps_items (l : List K) : (fmtK l).filter (· ≠ .blank) = l.filter (· ≠ .blank) := by
  fun_induction fmtK l with
  | case1 => rfl
  | case2 rest ih | case3 rest _ ih => exact ih
  | case4 x rest _ hx _ ih | case5 x rest _ hx _ ih => simpa [List.filter_cons, if_neg hx] using ih

/-- every run of blank lines shortened to one -/
def squeeze : List K → List K
  | .blank :: .blank :: rest => squeeze (.blank :: rest)
  | x :: rest => x :: squeeze rest
  | [] => []

theorem head_squeeze (l : List K) : (squeeze l).head? = l.head? := by
  fun_induction squeeze l <;> first | rfl | assumption

/-- squeezing runs of blank lines first makes no difference … -/
theorem fmtK_squeeze (l : List K) : fmtK (squeeze l) = fmtK l := by
  fun_induction squeeze l with
  | case1 rest ih => exact ih
  | case2 x rest h ih =>
    by_cases hx : x = .blank
    · have hr := head_ne_blank (h · hx)
      rw [hx, fmtK_blank hr, fmtK_blank (head_squeeze rest ▸ hr), ih]
    · rw [fmtK_cons hx, fmtK_cons hx, needBlank_congr head_squeeze (fun _ => rfl), ih]
  | case3 => rfl

/-- … so texts that differ only in the LENGTH of their blank-line runs format to the same text -/
theorem blank_run_length_irrelevant (l l' : List K) (h : squeeze l = squeeze l') : fmtK l = fmtK l' := by
  rw [← fmtK_squeeze l, ← fmtK_squeeze l', h]

/-- at most one blank line in a row inside a literal: never three newline items in succession, whatever
the count the scan starts with -/
def NoTripleNL : List M → Prop
  | .nl :: .nl :: .nl :: _ => False
  | _ :: rest => NoTripleNL rest
  | [] => True

theorem fmtM_keeps_items (c : Nat) (l : List M) : (fmtM c l).filter (· ≠ .nl) = l.filter (· ≠ .nl) := by
  fun_induction fmtM c l <;> first | rfl | assumption | exact congrArg (List.cons _) ‹_›

/-- `c ≤ c'`: where the inner scan drops a newline it goes on with a larger count than the outer -/
theorem fmtM_fmtM {c c' : Nat} (h : c ≤ c') (l : List M) : fmtM c (fmtM c' l) = fmtM c' l := by
  fun_induction fmtM c' l generalizing c with
  | case1 => rfl
  | case2 c' rest h' ih => simp [fmtM, ih (Nat.succ_le_succ h), Nat.le_trans (Nat.succ_le_succ h) h']
  | case3 c' rest h' ih => exact ih (Nat.le_succ_of_le h)
  | case4 c' rest ih => simp [fmtM, ih (Nat.le_refl 1)]
  | case5 c' rest ih => simp [fmtM, ih (Nat.le_refl 0)]

/-- **idempotence** of the blank-line squeeze inside literals -/
theorem fmtM_idempotent (l : List M) : ∀ c, fmtM c (fmtM c l) = fmtM c l :=
  fun c => fmtM_fmtM (Nat.le_refl c) l

def leadNL : List M → Nat
  | .nl :: rest => leadNL rest + 1
  | _ => 0

theorem noTripleNL_cons {x : M} {l : List M} (h : x = .nl → leadNL l < 2) (h' : NoTripleNL l) :
    NoTripleNL (x :: l) := by
  cases x with
  | nl =>
    rcases l with _ | ⟨y, _ | ⟨z, r⟩⟩
    · exact h'
    · cases y <;> exact h'
    · cases y <;> cases z <;> first | exact h' | exact absurd (h rfl) (Nat.not_lt.2 (Nat.le_add_left 2 _))
  | _ => exact h'

/-- after `c` newlines the scan lets at most `2 - c` more through -/
theorem fmtM_bounded (c : Nat) (l : List M) : NoTripleNL (fmtM c l) ∧ leadNL (fmtM c l) ≤ 2 - c := by
  fun_induction fmtM c l with
  | case1 => exact ⟨trivial, Nat.zero_le _⟩
  | case2 c rest h ih =>
    have := ih.2
    exact ⟨noTripleNL_cons (fun _ => by omega) ih.1, by simp only [leadNL]; omega⟩
  | case3 c rest h ih => exact ⟨ih.1, by have := ih.2; omega⟩
  | case4 c rest ih => exact ⟨noTripleNL_cons nofun ih.1, Nat.zero_le _⟩
  | case5 c rest ih => exact ⟨noTripleNL_cons nofun ih.1, Nat.zero_le _⟩

/-- never more than one blank line in a row inside a formatted literal -/
theorem fmtM_noTripleNL (l : List M) : NoTripleNL (fmtM 0 l) := (fmtM_bounded 0 l).1

example : fmtK [.stmt, .stmt, .stmt, .comment, .func, .blank, .blank, .blank, .stmt, .func, .func] =
    [.stmt, .stmt, .stmt, .blank, .comment, .func, .blank, .stmt, .blank, .func, .blank, .func] := by decide
example : fmtM 0 [.el, .nl, .nl, .nl, .nl, .comment, .nl, .nl, .el] = [.el, .nl, .nl, .comment, .nl, .el] := by decide

end EvyV.C07
