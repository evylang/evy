import EvyV.Gen.Sites
/-!
C08 — parsing, formatting and running are deterministic.

In Lean every model function is a function; the only ways the Go code can fail
to be one are hash-map iteration order, time, addresses and goroutines.  The
inventories of all of these are regenerated from the source on every run; the
obligations below say that the inventory is exactly the list of sites whose
order-independence is argued here.  A new `for … range someMap`, a goroutine, a
clock read or a %p breaks an obligation.
-/
namespace EvyV.C08

/-- how a map-range site uses the iteration: every class is independent of the order -/
inductive Use
  | conjunction      -- returns false at the first mismatch, true otherwise: a ∀ over the entries
  | buildsMap        -- inserts each entry into another map / scope under its own key
  | perEntryUpdate   -- updates each entry in place, independently of the others
  | collectThenSort  -- collects entries and sorts them by a total key before use
  | collectAsSet     -- collects into a slice that its consumers treat as a set (not an observable of C08)
  deriving DecidableEq, Repr

def sites : List (String × Use) := [
  ("pkg/bytecode/value.go:mapVal.Equals:m.m#1", .conjunction),
  ("pkg/evaluator/builtin.go:builtinsDeclsFromBuiltins:b.Funcs#1", .buildsMap),
  ("pkg/evaluator/builtin.go:builtinsDeclsFromBuiltins:b.Globals#2", .buildsMap),
  ("pkg/evaluator/builtin.go:sameMap:want.Pairs#1", .conjunction),
  ("pkg/evaluator/evaluator.go:Evaluator.evalProgram:e.eventHandlers#1", .collectAsSet),
  ("pkg/evaluator/evaluator.go:NewEvaluator:builtins.Globals#1", .buildsMap),
  ("pkg/evaluator/value.go:mapVal.Equals:m.Pairs#1", .conjunction),
  ("pkg/parser/ast.go:MapLiteral.infer:m.Pairs#1", .perEntryUpdate),
  ("pkg/parser/ast.go:wrapAny:mapLit.Pairs#1", .perEntryUpdate),
  ("pkg/parser/parser.go:newParser:builtins.Funcs#1", .buildsMap),
  ("pkg/parser/parser.go:parser.calledBuiltinFuncs:p.funcs#1", .collectAsSet),
  ("pkg/parser/parser.go:parser.parseProgram:p.builtins.Globals#1", .buildsMap),
  ("pkg/parser/parser.go:parser.validateScope:p.scope.vars#1", .collectThenSort)]

/-- every map-range loop in lexer, parser, evaluator, bytecode, cli, cli/svg and main.go is one
of the justified sites — and nothing else ranges over a map -/
theorem sites_covered : Gen.mapRanges = sites.map Prod.fst := rfl

/-- no goroutines, no channel operations, no address formatting anywhere in those packages; the
only clock reads are the default seed of RandSource (overridden by --rand-seed / by the platform)
and the platform's own sleep -/
theorem no_clock_no_goroutines :
    Gen.goroutineAndChannelSites = [] ∧ Gen.pointerFormatSites = [] ∧
    Gen.timeSites = ["pkg/cli/runtime.go:Platform.Sleep:time.Sleep",
                     "pkg/evaluator/builtin.go:<package var>:time.Now",
                     "pkg/evaluator/builtin.go:<package var>:time.Now().UnixNano"] := ⟨rfl, rfl, rfl⟩

/-! ### order-independence, for every permutation: `conjunction`, `buildsMap`, `collectThenSort` have a theorem;
`perEntryUpdate` and `collectAsSet` have only the comment at their constructor -/

/-- conjunction: `all` does not depend on the order of the entries -/
theorem conjunction_order_free {α : Type} (p : α → Bool) (l₁ l₂ : List α) (h : l₁.Perm l₂) :
    l₁.all p = l₂.all p := h.all_eq

def insertAll {κ ν : Type} [DecidableEq κ] (m : κ → Option ν) (l : List (κ × ν)) : κ → Option ν :=
  l.foldl (fun acc p => fun k => if k = p.1 then some p.2 else acc k) m

theorem insertAll_lookup {κ ν : Type} [DecidableEq κ] (l : List (κ × ν)) (hn : (l.map Prod.fst).Nodup)
    (m : κ → Option ν) (k : κ) :
    insertAll m l k = match l.find? (fun p => p.1 = k) with | some p => some p.2 | none => m k := by
  induction l generalizing m with
  | nil => rfl
  | cons p rest ih =>
    simp only [List.map_cons, List.nodup_cons] at hn
    simp only [insertAll, List.foldl_cons] at *
    rw [ih hn.2]
    by_cases hk : p.1 = k
    · subst hk
      have : rest.find? (fun q => q.1 = p.1) = none :=
        List.find?_eq_none.2 fun q hq hqe => hn.1 (List.mem_map.2 ⟨q, hq, of_decide_eq_true hqe⟩)
      simp [this]
    · have hk' : ¬ k = p.1 := fun e => hk e.symm
      simp [hk, hk']

/-- two insertions under different keys commute -/
theorem insertAll_perm {κ ν : Type} [DecidableEq κ] {l₁ l₂ : List (κ × ν)} (h : l₁.Perm l₂)
    (hn : (l₁.map Prod.fst).Nodup) (m : κ → Option ν) : insertAll m l₁ = insertAll m l₂ := by
  induction h generalizing m with
  | nil => rfl
  | cons x _ ih => exact ih (List.nodup_cons.1 hn).2 _
  | swap x y l =>
    have hne : ¬ x.1 = y.1 := fun e => (List.nodup_cons.1 hn).1 (by simp [e])
    simp only [insertAll, List.foldl_cons]
    congr 1; funext k
    split
    · rw [if_neg (by rename_i e; exact e ▸ hne)]
    · rfl
  | trans h1 _ ih1 ih2 => exact (ih1 hn m).trans (ih2 ((h1.map _).nodup_iff.1 hn) m)

/-- buildsMap: every lookup is the same whatever the insertion order -/
theorem buildsMap_order_free {κ ν : Type} [DecidableEq κ] (l₁ l₂ : List (κ × ν)) (h : l₁.Perm l₂)
    (hn : (l₁.map Prod.fst).Nodup) (m : κ → Option ν) (k : κ) :
    insertAll m l₁ k = insertAll m l₂ k := congrFun (insertAll_perm h hn m) k

/-- collect-then-sort: sorting by a key that is distinct for distinct entries gives the same list
for every permutation of the input (validateScope sorts by token offset, and offsets are distinct) -/
theorem collectThenSort_order_free {α : Type} (le : α → α → Bool) (l₁ l₂ : List α) (h : l₁.Perm l₂)
    (htrans : ∀ a b c, le a b = true → le b c = true → le a c = true)
    (htotal : ∀ a b, (le a b || le b a) = true)
    (hanti : ∀ a b, a ∈ l₁ → b ∈ l₁ → le a b = true → le b a = true → a = b) :
    l₁.mergeSort le = l₂.mergeSort le := by
  apply List.Perm.eq_of_pairwise (le := fun a b => le a b = true)
  · exact fun a b ha hb => hanti a b (List.mem_mergeSort.1 ha) (h.mem_iff.2 (List.mem_mergeSort.1 hb))
  · exact List.pairwise_mergeSort htrans htotal l₁
  · exact List.pairwise_mergeSort htrans htotal l₂
  · exact (List.mergeSort_perm l₁ le).trans (h.trans (List.mergeSort_perm l₂ le).symm)

end EvyV.C08
