import EvyV.Lemmas.Interp
import EvyV.Props.TwoRun
/-!
C09 — basic values are copied, composites are shared.

In the model num/string/bool values are immutable data held directly in
variables, array elements and map values; there is no operation that changes
one in place (the harness checks the real evaluator against this on every alias
pattern). So "a later change to one variable never shows through another" is:
rebinding a name changes what that name denotes and nothing else. Arrays and maps
are addresses into a heap; slicing, concatenation and repetition allocate.
-/
namespace EvyV.C09
variable {F : Type} (ops : NumOps F) (ext : Ext F) (prog : Program F)

/-- declaring / rebinding `n` in a scope does not change any other name of that scope -/
theorem set_other_unchanged (s : Scope F) (n m : Str) (v : Val F) (h : m ≠ n) :
    scopeGet (scopeSet s n v) m = scopeGet s m := by
  rw [scopeGet_scopeSet]; simp [h]

theorem set_reads_back (s : Scope F) (n : Str) (v : Val F) :
    scopeGet (scopeSet s n v) n = some v := by
  rw [scopeGet_scopeSet]; simp

/-- a declaration binds the value itself; the heap (all arrays and maps) is untouched, so no
other variable, element or map value changes -/
theorem decl_touches_only_its_name (st : St F) (n : Str) (v : Val F) :
    (setVar st n v).heap = st.heap ∧ (setVar st n v).trace = st.trace := by
  unfold setVar
  split
  · exact ⟨rfl, rfl⟩
  · split <;> exact ⟨rfl, rfl⟩

/-- assignment to a variable rebinds the nearest declaration and leaves the heap alone:
composites are shared (the address is copied), never copied implicitly -/
theorem assign_rebinds_only (st st' : St F) (n : Str) (v : Val F) (h : updateVar st n v = some st') :
    st'.heap = st.heap ∧ st'.trace = st.trace :=
  have h := updateVar_spec st st' n v h
  ⟨h.1, h.2.1⟩

/-- an element store changes exactly one heap object: every other array and map — and so every
basic value stored anywhere else — is unchanged -/
theorem element_store_is_local (st : St F) (a b : Nat) (o : Obj F) (h : b ≠ a) :
    heapGet (heapSet st a o) b = heapGet st b := by
  simp [heapGet, heapSet, h.symm]

/-- a composite value is an address: binding it to a second name shares the object, so an
element store through one name is visible through the other -/
theorem composites_shared (st : St F) (a : Nat) (o : Obj F) (h : a < st.heap.size) :
    heapGet (heapSet st a o) a = some o := by
  simp [heapGet, heapSet, h]

/-- **slicing an array produces a fresh container**: a new address, no existing object changed -/
theorem slice_fresh (st : St F) (a : Nat) (es : List (Val F)) (s e : Option (Val F)) (st' : St F) (b : Nat)
    (hg : heapGet st a = some (.arr es))
    (h : sliceVal ops st (.arr a) s e = .ok (.arr b) st') :
    b = st.heap.size ∧ heapGet st b = none ∧ (∀ c, c < st.heap.size → heapGet st' c = heapGet st c) := by
  unfold sliceVal at h
  split at h
  case h_2 => cases h
  rename_i s' e' _ _
  simp only [hg] at h
  cases hl : sliceList ops es s' e' with
  | error er => simp [hl] at h
  | ok r =>
    cases r with
    | none => simp [hl] at h
    | some l =>
      simp only [hl] at h
      have hf := alloc_fresh st (Obj.arr l)
      simp only [alloc] at h hf
      injection h with h1 h2
      injection h1 with h1
      subst h1 h2
      exact ⟨rfl, hf.1, hf.2.1⟩

/-- **concatenation produces a fresh container** -/
theorem concat_fresh (st : St F) (la ra : Nat) (ls rs : List (Val F))
    (hl : heapGet st la = some (.arr ls)) (hr : heapGet st ra = some (.arr rs)) :
    ∃ st', applyBinary ops ext st .plus (.arr la) (.arr ra) = .ok (.arr st.heap.size) st' ∧
      heapGet st st.heap.size = none ∧ heapGet st' st.heap.size = some (.arr (ls ++ rs)) ∧
      (∀ c, c < st.heap.size → heapGet st' c = heapGet st c) := by
  refine ⟨(alloc st (.arr (ls ++ rs))).2, ?_, ?_, ?_, ?_⟩
  · simp [applyBinary, binArr, hl, hr, alloc]
  · simp [heapGet]
  · simp [heapGet, alloc]
  · exact (alloc_fresh st _).2.1

/-- deep copy (used by repetition: "repetition copies nested composites too") never returns an
address that existed before for an array, at any nesting depth (the elements are deep-copied
first, then the new array is allocated) -/
theorem deepCopy_fresh_array (fuel : Nat) (st st' : St F) (a b : Nat)
    (h : deepCopy (fuel + 1) (.arr a) st = some (.arr b, st')) : st.heap.size ≤ b := by
  unfold deepCopy at h
  cases hg : heapGet st a with
  | none => simp [hg] at h
  | some o =>
    cases o with
    | map m => simp [hg] at h
    | arr elems =>
      simp only [hg] at h
      cases hd : deepCopyList fuel elems st with
      | none => simp [hd] at h
      | some p =>
        obtain ⟨es, st1⟩ := p
        simp only [hd, alloc] at h
        simp only [Option.some.injEq, Prod.mk.injEq, Val.arr.injEq] at h
        obtain ⟨h1, _⟩ := h
        subst h1
        -- the heap only grows during the copy of the elements
        exact (((deepCopy_same none false fuel).2.1 elems st).2 (es, st1) hd).heap

/-- **whole programs**: no execution frees or moves an object; an address held by any variable,
element or field stays valid, so two holders of one composite keep seeing the same object -/
theorem composites_never_move (n : Nat) (b : List (Stmt F)) (st : St F) (a : Nat) (h : a < st.heap.size) :
    a < (execStmts ops ext prog n b st).st.heap.size := addresses_stay_valid ops ext prog n b st a h

end EvyV.C09
