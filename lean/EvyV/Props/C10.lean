import EvyV.Lemmas.Interp
import EvyV.Props.TwoRun
/-!
C10 — lexical scoping and structured control flow: single steps of push / pop, break / return and the four rangers;
the whole-program statements at the end restate those of Props/TwoRun.lean.
-/
namespace EvyV.C10
variable {F : Type} (ops : NumOps F) (ext : Ext F) (prog : Program F)

/-- a block scope pushed for `if`/`else`/`while`/`for` bodies is popped again: the scope stack
after the construct is the scope stack before it -/
theorem block_scope_restored (st : St F) : popScope (pushScope st) = st := pop_push st

/-- declarations inside a pushed block go to the new innermost scope: the outer scopes and the
globals are untouched, so after the pop the outer variable is back unchanged (shadowing) -/
theorem shadow_restores_outer (st : St F) (n : Str) (v : Val F) :
    popScope (setVar (pushScope st) n v) = st := by
  unfold setVar pushScope popScope
  by_cases h : n = underscore <;> simp [h]

theorem shadow_restores_outer2 (st : St F) (n m : Str) (v w : Val F) :
    popScope (setVar (setVar (pushScope st) n v) m w) = st := by
  unfold setVar pushScope popScope
  by_cases h : n = underscore <;> by_cases h2 : m = underscore <;> simp [h, h2]

/-- lookup is innermost first: a block-local declaration shadows an outer one of the same name -/
theorem innermost_wins (st : St F) (n : Str) (v : Val F) (h : n ≠ underscore) :
    getVar (setVar (pushScope st) n v) n = some v := by
  unfold getVar setVar pushScope
  simp [h, scopeSet, scopeGet, List.lookup]

theorem calleeState_globals (fd : FuncDef F) (vs : List (Val F)) (st' : St F) (hv : fd.variadic = none)
    (hp : fd.params = []) : (calleeState fd vs st').global = st'.global ∧ (calleeState fd vs st').locals = [[]] := by
  simp [calleeState, hv, hp, bindParams]

/-- a function body sees only its parameters, its own locals and the globals, and the caller's
scope stack is restored after the call, whatever happens in the callee -/
theorem call_runs_in_fresh_scope (n : Nat) (name : Str) (args : List (Expr F)) (st st' : St F) (vs : List (Val F))
    (fd : FuncDef F)
    (ha : evalList ops ext prog n args st = .ok vs st')
    (hb : callBuiltin ops ext name vs st' = none)
    (hf : lookupFunc prog.funcs name = some fd) (hl : ¬ vs.length < fd.params.length) :
    (∀ o st4, execBlockNode ops ext prog n fd.body (calleeState fd vs st') = .err o st4 →
      evalCall ops ext prog (n + 1) name args st = .err o { st4 with locals := st'.locals }) ∧
    (∀ v st4, execBlockNode ops ext prog n fd.body (calleeState fd vs st') = .ok (.ret (some v)) st4 →
      evalCall ops ext prog (n + 1) name args st = .ok v { st4 with locals := st'.locals }) ∧
    (∀ st4, execBlockNode ops ext prog n fd.body (calleeState fd vs st') = .ok .normal st4 →
      evalCall ops ext prog (n + 1) name args st = .ok .none { st4 with locals := st'.locals }) ∧
    (∀ st4, execBlockNode ops ext prog n fd.body (calleeState fd vs st') = .ok (.ret none) st4 →
      evalCall ops ext prog (n + 1) name args st = .ok .none { st4 with locals := st'.locals }) := by
  rw [evalCall_user ops ext prog n name args st st' vs fd ha hb hf hl, callUser]
  exact ⟨fun _ _ h => by rw [h]; rfl, fun _ _ h => by rw [h]; rfl, fun _ h => by rw [h]; rfl, fun _ h => by rw [h]; rfl⟩

/-- `break` and `return` stop the statement sequence they are in: nothing after them runs -/
theorem break_return_leave_sequence (n : Nat) (s : Stmt F) (rest : List (Stmt F)) (st st' : St F) (c : Completion F)
    (h : execS ops ext prog n s st = .ok c st') (hc : c ≠ .normal) :
    execStmts ops ext prog (n + 1) (s :: rest) st = .ok c st' := by
  cases c with
  | normal => exact absurd rfl hc
  | _ => simp [execStmts, h]

/-- `break` leaves exactly the loop it is in: a while loop whose body completes with `break`
completes normally (the break does not travel further out) … -/
theorem break_leaves_innermost_while (n : Nat) (c : Expr F) (body : List (Stmt F)) (st st' : St F)
    (h : execCond ops ext prog n c body st = .ok (.brk, true) st') :
    execWhile ops ext prog (n + 1) c body st = .ok .normal st' := by
  simp [execWhile, h]

/-- … whereas `return` travels through the loop unchanged -/
theorem return_passes_through_while (n : Nat) (c : Expr F) (body : List (Stmt F)) (st st' : St F) (v : Option (Val F))
    (h : execCond ops ext prog n c body st = .ok (.ret v, true) st') :
    execWhile ops ext prog (n + 1) c body st = .ok (.ret v) st' := by
  simp [execWhile, h]

theorem break_leaves_innermost_for (n : Nat) (lv : Str) (r r' : Ranger F) (body : List (Stmt F)) (st st1 st' : St F) (v : Val F)
    (hn : rangerNext ops st r = some (v, r')) (hu : updateVar st lv v = some st1)
    (h : execBlockNode ops ext prog n body (pushScope st1) = .ok .brk st') :
    execForLoop ops ext prog (n + 1) lv r body st = .ok .normal (popScope st') := by
  simp [execForLoop, hn, hu, h]

theorem return_passes_through_for (n : Nat) (lv : Str) (r r' : Ranger F) (body : List (Stmt F)) (st st1 st' : St F) (v : Val F)
    (rv : Option (Val F))
    (hn : rangerNext ops st r = some (v, r')) (hu : updateVar st lv v = some st1)
    (h : execBlockNode ops ext prog n body (pushScope st1) = .ok (.ret rv) st') :
    execForLoop ops ext prog (n + 1) lv r body st = .ok (.ret rv) (popScope st') := by
  simp [execForLoop, hn, hu, h]

/-- `while` tests its condition before every iteration, also the first -/
theorem while_tests_first (n : Nat) (c : Expr F) (body : List (Stmt F)) (st st' : St F) (comp : Completion F)
    (h : execCond ops ext prog n c body st = .ok (comp, false) st') :
    execWhile ops ext prog (n + 1) c body st = .ok .normal st' := by
  simp [execWhile, h]

/-- numeric range: the next value is the current one, the loop ends exactly when the current
value has reached or passed `stop` in the direction of `step` -/
theorem stepRange_next (st : St F) (cur stop step : F) :
    rangerNext ops st (.step cur stop step) =
      if (ops.lt ops.zero step && ops.le stop cur) || (ops.lt step ops.zero && ops.le cur stop) then none
      else some (.num cur, .step (ops.add cur step) stop step) := by
  unfold rangerNext
  by_cases h1 : (ops.lt ops.zero step && ops.le stop cur) = true
  · simp [h1]
  · by_cases h2 : (ops.lt step ops.zero && ops.le cur stop) = true <;> simp [h1, h2]

/-- start, stop and step are part of the ranger: evaluated once at loop entry, never again -/
theorem stepRange_operands_fixed (st st2 : St F) (cur stop step : F) (v : Val F) (r : Ranger F)
    (h : rangerNext ops st (.step cur stop step) = some (v, r)) :
    r = .step (ops.add cur step) stop step ∧ rangerNext ops st2 (.step cur stop step) = some (v, r) := by
  rw [stepRange_next] at h
  split at h
  · simp at h
  · rename_i hc
    simp only [Option.some.injEq, Prod.mk.injEq] at h
    refine ⟨h.2.symm, ?_⟩
    rw [stepRange_next]; simp [hc, h.1, h.2]

/-- array range: element `cur` of the array as it is now, then `cur+1` -/
theorem arrayRange_next (st : St F) (a cur : Nat) (es : List (Val F)) (h : heapGet st a = some (.arr es)) :
    rangerNext ops st (.arr a cur) = (es[cur]?).map (fun v => (v, .arr a (cur + 1))) := by
  simp only [rangerNext, h]
  cases es[cur]? <;> rfl

/-- string range: code point `cur` of the string captured at loop entry -/
theorem stringRange_next (st : St F) (rs : Str) (cur : Nat) :
    rangerNext ops st (.str rs cur) = (rs[cur]?).map (fun c => (.str [c], .str rs (cur + 1))) := by
  simp only [rangerNext]
  cases rs[cur]? <;> rfl

/-- map range: the next key of the snapshot taken at loop entry that is still present; keys
deleted in the meantime are skipped, keys not in the snapshot are never produced -/
theorem nextPresent_spec {V : Type} (m : MapVal V) (order : List Key) (k : Key) (rest : List Key)
    (h : nextPresent m order = some (k, rest)) :
    m.has k = true ∧ ∃ skipped, order = skipped ++ k :: rest ∧ ∀ x ∈ skipped, m.has x = false := by
  induction order with
  | nil => simp [nextPresent] at h
  | cons a tl ih =>
    simp only [nextPresent] at h
    by_cases ha : m.has a = true
    · simp only [ha, if_true, Option.some.injEq, Prod.mk.injEq] at h
      obtain ⟨rfl, rfl⟩ := h
      exact ⟨ha, [], rfl, by simp⟩
    · simp only [ha] at h
      obtain ⟨h1, sk, h2, h3⟩ := ih h
      exact ⟨h1, a :: sk, by simp [h2], List.forall_mem_cons.mpr ⟨by simpa using ha, h3⟩⟩

theorem nextPresent_none {V : Type} (m : MapVal V) (order : List Key) (h : nextPresent m order = none) :
    ∀ x ∈ order, m.has x = false := by
  induction order with
  | nil => simp
  | cons a tl ih =>
    simp only [nextPresent] at h
    by_cases ha : m.has a = true
    · simp [ha] at h
    · simp only [ha] at h
      exact List.forall_mem_cons.mpr ⟨by simpa using ha, ih h⟩

theorem mapRange_next (st : St F) (a : Nat) (order : List Key) (m : MapVal (Val F))
    (h : heapGet st a = some (.map m)) :
    rangerNext ops st (.map a order) = (nextPresent m order).map (fun p => (.str p.1, .map a p.2)) := by
  simp only [rangerNext, h]

/-- a zero step is the documented run-time panic (checked before the first iteration) -/
theorem zero_step_panics (n : Nat) (st st1 : St F) (lv : Option Str) (ty : Ty) (a b c : Expr F) (body : List (Stmt F))
    (s1 s2 s3 : St F) (x y z : F)
    (ht : tick st = some st1)
    (ha : evalNumOr ops ext prog n (some a) ops.zero (pushScope st1) = .ok x s1)
    (hb : evalNumOr ops ext prog n (some b) ops.zero s1 = .ok y s2)
    (hc : evalNumOr ops ext prog n (some c) ops.one s2 = .ok z s3)
    (hz : ops.eq z ops.zero = true) :
    execS ops ext prog (n + 1) (.forS lv ty (.step (some a) b (some c)) body) st = .err (.panic .rangeValue) (popScope s3) := by
  simp [execS, ht, ha, hb, hc, hz]

/-- **whole programs**: any statement list — whatever it contains, however it ends (normally, break, return,
panic, stop) — leaves the scope stack as deep as it found it -/
theorem every_scope_is_popped (n : Nat) (b : List (Stmt F)) (st : St F) :
    (execStmts ops ext prog n b st).st.locals.length = st.locals.length := scopes_balanced ops ext prog n b st

theorem every_scope_is_popped_expr (n : Nat) (e : Expr F) (st : St F) :
    (evalE ops ext prog n e st).st.locals.length = st.locals.length := scopes_balanced_expr ops ext prog n e st

/-- **whole programs**: an if chain or a while loop, whatever the bodies declare and however they end,
leaves every scope with exactly the names it had — a declaration inside a block is not visible after
the block, and shadowing an outer name inside never removes or renames the outer one -/
theorem block_declarations_do_not_leak (n : Nat) (s : Stmt F) (st : St F)
    (hs : (∃ cs e, s = .ifS cs e) ∨ (∃ c b, s = .whileS c b)) :
    (execS ops ext prog n s st).st.locals.map keys = st.locals.map keys :=
  if_while_declare_nothing_outside ops ext prog n s st hs

/-- the same for every kind of `for` statement: the loop variable and what the body declares are gone
after the loop, on every exit path -/
theorem for_declarations_do_not_leak (n : Nat) (lv : Option Str) (lvTy : Ty) (range : ForRange F) (body : List (Stmt F)) (st : St F) :
    (execS ops ext prog n (.forS lv lvTy range body) st).st.locals.map keys = st.locals.map keys :=
  for_declares_nothing_outside ops ext prog n lv lvTy range body st

/-- and in general (any statement list): outer scopes keep exactly their names, the innermost scope
keeps its names in order and may gain the ones declared at this level -/
theorem names_only_added_at_this_level (n : Nat) (b : List (Stmt F)) (st : St F) :
    ScopesExt st.locals (execStmts ops ext prog n b st).st.locals :=
  ((walk ops ext prog none n).stmts b st false).frame.locals

end EvyV.C10
