import EvyV.Model.Index
import EvyV.Spec.Index
/-!
C11 — index and slice laws for arrays and strings. "v is an integer" means what the code tests,
`float64(int(v)) == v` (`ops.isIntegral`). `.ok none` in the model stands for a Go run-time panic
(out-of-range slice access): the theorems show it is unreachable.
-/
namespace EvyV.C11

variable {F : Type} (ops : NumOps F)

def lim (n : Nat) : IdxKind → Int
  | .index => n
  | .slice => n + 1

theorem normalizeIndex_eq (v : F) (n : Nat) (k : IdxKind) :
    normalizeIndex ops v n k =
      if ops.isIntegral v = false then .error .indexValue
      else if -(n : Int) ≤ ops.toInt v ∧ ops.toInt v < lim n k then .ok (Spec.pos n (ops.toInt v)).toNat
      else .error .bounds := by
  unfold normalizeIndex NumOps.isIntegral Spec.pos
  -- the same case distinction on both sides, the conditions written differently
  cases k <;> simp only [lim] <;> grind

theorem normalizeIndex_ok_iff (v : F) (n : Nat) (k : IdxKind) (j : Nat) :
    normalizeIndex ops v n k = .ok j ↔
      ops.isIntegral v = true ∧ -(n : Int) ≤ ops.toInt v ∧ ops.toInt v < lim n k ∧
        j = (Spec.pos n (ops.toInt v)).toNat := by
  rw [normalizeIndex_eq]
  split
  · next h => simp [h]
  · next h =>
    split
    · next hr => exact ⟨fun e => ⟨by simpa using h, hr.1, hr.2, (Except.ok.inj e).symm⟩, fun e => e.2.2.2 ▸ rfl⟩
    · next hr => exact ⟨nofun, fun e => absurd ⟨e.2.1, e.2.2.1⟩ hr⟩

/-- `s[i]` exists exactly for an integer `-n ≤ i < n` -/
theorem index_ok_iff (v : F) (n j : Nat) :
    normalizeIndex ops v n .index = .ok j ↔
      ops.isIntegral v = true ∧ -(n : Int) ≤ ops.toInt v ∧ ops.toInt v < n ∧
        j = (Spec.pos n (ops.toInt v)).toNat :=
  normalizeIndex_ok_iff ops v n .index j

/-- a slice bound may also be `n` -/
theorem slice_bound_ok_iff (v : F) (n j : Nat) :
    normalizeIndex ops v n .slice = .ok j ↔
      ops.isIntegral v = true ∧ -(n : Int) ≤ ops.toInt v ∧ ops.toInt v ≤ n ∧
        j = (Spec.pos n (ops.toInt v)).toNat := by
  rw [normalizeIndex_ok_iff, lim, Int.lt_add_one_iff]

/-- else a non-integer is the `indexValue` panic, out of range the `bounds` panic -/
theorem index_err (v : F) (n : Nat) :
    (∃ j, normalizeIndex ops v n .index = .ok j) ∨
    (ops.isIntegral v = false ∧ normalizeIndex ops v n .index = .error .indexValue) ∨
    (ops.isIntegral v = true ∧ (ops.toInt v < -(n : Int) ∨ (n : Int) ≤ ops.toInt v) ∧
      normalizeIndex ops v n .index = .error .bounds) := by
  rw [normalizeIndex_eq]
  split
  · exact .inr (.inl ⟨‹_›, rfl⟩)
  · split
    · exact .inl ⟨_, rfl⟩
    · exact .inr (.inr ⟨by simpa using ‹¬ _ = false›, by simp only [lim] at *; omega, rfl⟩)

theorem pos_toNat {n : Nat} {i : Int} (h : -(n : Int) ≤ i) :
    (i < n → (Spec.pos n i).toNat < n) ∧ (i ≤ n → (Spec.pos n i).toNat ≤ n) := by
  unfold Spec.pos; split <;> omega

theorem index_ok_lt {v : F} {n j : Nat} (h : normalizeIndex ops v n .index = .ok j) : j < n := by
  obtain ⟨-, h1, h2, rfl⟩ := (index_ok_iff ops v n j).mp h
  exact (pos_toNat h1).1 h2

theorem indexList_spec {α : Type} (xs : List α) (v : F) (hv : ops.isIntegral v = true) :
    indexList ops xs v =
      match Spec.index xs (ops.toInt v) with
      | some x => .ok (some x)
      | none => .error .bounds := by
  unfold indexList Spec.index
  rw [normalizeIndex_eq, if_neg (by simp [hv])]
  by_cases hr : -(xs.length : Int) ≤ ops.toInt v ∧ ops.toInt v < xs.length
  · simp [lim, hr, List.getElem?_eq_getElem ((pos_toNat hr.1).1 hr.2)]
  · simp [lim, hr]

theorem indexList_nonint {α : Type} (xs : List α) (v : F) (hv : ops.isIntegral v = false) :
    indexList ops xs v = .error .indexValue := by
  rw [indexList, normalizeIndex_eq, if_pos hv]

theorem indexList_never_gopanic {α : Type} (xs : List α) (v : F) :
    indexList ops xs v ≠ .ok none := by
  unfold indexList
  split
  · nofun
  · next j h => simp [List.getElem?_eq_getElem (index_ok_lt ops h)]

theorem setIndex_same_domain {α : Type} (xs : List α) (v : F) (x : α) :
    (∀ e, setIndexList ops xs v x = .error e ↔ indexList ops xs v = .error e) ∧
    (∀ j, normalizeIndex ops v xs.length .index = .ok j →
        setIndexList ops xs v x = .ok (some (xs.set j x)) ∧ j < xs.length) := by
  unfold setIndexList indexList
  cases h : normalizeIndex ops v xs.length .index with
  | error e => simp
  | ok j => simp [index_ok_lt ops h]

/-- the bound as `Spec.slice` takes it -/
def bnd (b : Option F) : Option Int := b.map ops.toInt
def allIntegral (b : Option F) : Bool := match b with | none => true | some v => ops.isIntegral v

/-- where `Spec.slice` is defined -/
abbrev SliceOk (n : Nat) (A B : Int) : Prop := 0 ≤ A ∧ A ≤ B ∧ B ≤ n

/-- one bound of a slice, given or not -/
def optBound (n : Nat) (o : Option F) (d : Nat) : Except IdxErr Nat :=
  match o with | none => .ok d | some v => normalizeIndex ops v n .slice

theorem optBound_eq (n : Nat) (o : Option F) (d : Nat) (hd : d ≤ n) (ho : allIntegral ops o = true) :
    optBound ops n o d =
      if 0 ≤ Spec.bound n (bnd ops o) d ∧ Spec.bound n (bnd ops o) d ≤ n then .ok (Spec.bound n (bnd ops o) d).toNat
      else .error .bounds := by
  cases o with
  | none => exact (if_pos (show 0 ≤ (d : Int) ∧ (d : Int) ≤ n by omega)).symm
  | some v =>
    rw [optBound, normalizeIndex_eq, if_neg (by simpa [allIntegral] using ho)]
    have : (-(n : Int) ≤ ops.toInt v ∧ ops.toInt v < lim n .slice) ↔
        (0 ≤ Spec.pos n (ops.toInt v) ∧ Spec.pos n (ops.toInt v) ≤ n) := by
      by_cases hi : ops.toInt v < 0 <;> simp only [Spec.pos, lim, hi, if_true, if_false] <;> omega
    simp only [this]; rfl

theorem normalizeSliceIndices_eq (a b : Option F) (n : Nat) : normalizeSliceIndices ops a b n =
    match optBound ops n a 0 with
    | .error e => .error e
    | .ok s => match optBound ops n b n with
      | .error e => .error e
      | .ok e => if s > e then .error .badSlice else .ok (s, e) := by
  cases a <;> cases b <;> rfl

/-- `A`, `B` with equations, so that `omega` in `sliceList_spec` sees atoms -/
theorem sliceIdx_eq (n : Nat) (a b : Option F) (ha : allIntegral ops a = true) (hb : allIntegral ops b = true)
    {A B : Int} (hA : Spec.bound n (bnd ops a) 0 = A) (hB : Spec.bound n (bnd ops b) n = B) :
    (SliceOk n A B → normalizeSliceIndices ops a b n = .ok (A.toNat, B.toNat)) ∧
    (¬ SliceOk n A B →
      normalizeSliceIndices ops a b n = .error .bounds ∨ normalizeSliceIndices ops a b n = .error .badSlice) := by
  have e0 := optBound_eq ops n a 0 (Nat.zero_le n) ha
  have e1 := optBound_eq ops n b n (Nat.le_refl n) hb
  rw [Int.natCast_zero, hA] at e0; rw [hB] at e1
  rw [normalizeSliceIndices_eq, e0, e1]
  -- a bound outside `[0, n]` refutes `SliceOk` (`0 ≤ A ≤ B ≤ n`); with both inside, the last test is `A ≤ B`
  by_cases h0 : 0 ≤ A ∧ A ≤ n
  · by_cases h1 : 0 ≤ B ∧ B ≤ n
    · rw [if_pos h0, if_pos h1]
      by_cases hle : A ≤ B
      · exact ⟨fun _ => if_neg (by omega), fun hn => absurd ⟨h0.1, hle, h1.2⟩ hn⟩
      · exact ⟨fun hs => absurd hs.2.1 hle, fun _ => .inr (if_pos (by omega))⟩
    · rw [if_pos h0, if_neg h1]
      exact ⟨fun hs => absurd ⟨by have := hs.1; have := hs.2.1; omega, hs.2.2⟩ h1, fun _ => .inl rfl⟩
  · rw [if_neg h0]
    exact ⟨fun hs => absurd ⟨hs.1, by have := hs.2.1; have := hs.2.2; omega⟩ h0, fun _ => .inl rfl⟩

/-- `s[a:b]` is the slice of docs/spec.md, or a slice panic where that has none -/
theorem sliceList_spec {α : Type} (xs : List α) (a b : Option F)
    (ha : allIntegral ops a = true) (hb : allIntegral ops b = true) :
    match Spec.slice xs (bnd ops a) (bnd ops b) with
    | some ys => sliceList ops xs a b = .ok (some ys)
    | none => sliceList ops xs a b = .error .bounds ∨ sliceList ops xs a b = .error .badSlice := by
  unfold Spec.slice sliceList
  generalize hA : Spec.bound xs.length (bnd ops a) 0 = A
  generalize hB : Spec.bound xs.length (bnd ops b) xs.length = B
  have h := sliceIdx_eq ops xs.length a b ha hb hA hB
  by_cases hc : SliceOk xs.length A B
  · have h1 : A.toNat ≤ B.toNat ∧ B.toNat ≤ xs.length := by omega
    have h2 : (B - A).toNat = B.toNat - A.toNat := by omega
    simp [hc, h.1 hc, h1, h2]
  · rcases h.2 hc with h2 | h2 <;> simp [hc, h2]

/-- a non-integer start is the `indexValue` panic -/
theorem sliceList_nonint_start {α : Type} (xs : List α) (va : F) (b : Option F)
    (h : ops.isIntegral va = false) : sliceList ops xs (some va) b = .error .indexValue := by
  simp [sliceList, normalizeSliceIndices, normalizeIndex_eq, h]

theorem optBound_le {n d j : Nat} {o : Option F} (hd : d ≤ n) (h : optBound ops n o d = .ok j) : j ≤ n := by
  cases o with
  | none => cases h; exact hd
  | some v =>
    obtain ⟨-, h1, h2, rfl⟩ := (slice_bound_ok_iff ops v n j).mp h
    exact (pos_toNat h1).2 h2

theorem sliceIdx_ok_le {a b : Option F} {n s e : Nat} (h : normalizeSliceIndices ops a b n = .ok (s, e)) :
    s ≤ e ∧ e ≤ n := by
  rw [normalizeSliceIndices_eq] at h
  -- both bounds were found and the last test passed
  split at h
  · cases h
  · split at h
    · cases h
    · next he =>
      split at h <;> cases h
      exact ⟨by omega, optBound_le ops (Nat.le_refl n) he⟩

/-- Slicing never reaches Go's own slice-bounds check. -/
theorem sliceList_never_gopanic {α : Type} (xs : List α) (a b : Option F) :
    sliceList ops xs a b ≠ .ok none := by
  unfold sliceList
  cases h : normalizeSliceIndices ops a b xs.length with
  | error e => simp
  | ok p => simp [sliceIdx_ok_le ops h]

/-- a slice has `b - a` elements -/
theorem slice_length {α : Type} (xs ys : List α) (a b : Option Int)
    (h : Spec.slice xs a b = some ys) :
    (ys.length : Int) = Spec.bound xs.length b xs.length - Spec.bound xs.length a 0 := by
  unfold Spec.slice at h
  split at h
  · rename_i hc
    injection h with h; subst h
    simp [List.length_take, List.length_drop]; omega
  · simp at h

example : indexList intOps [10, 20, 30] (-1 : Int) = .ok (some 30) := by rfl
example : indexList intOps [10, 20, 30] (3 : Int) = .error .bounds := by rfl
example : indexList intOps [10, 20, 30] (-4 : Int) = .error .bounds := by rfl
example : sliceList intOps [10, 20, 30] (some (-2 : Int)) none = .ok (some [20, 30]) := by rfl
example : sliceList intOps [10, 20, 30] (some (2 : Int)) (some 1) = .error .badSlice := by rfl
example : sliceList intOps [10, 20, 30] (some (3 : Int)) (some 3) = .ok (some []) := by rfl
example : intOps.isIntegral (5 : Int) = true ∧ allIntegral intOps (some (5 : Int)) = true := by decide

end EvyV.C11
