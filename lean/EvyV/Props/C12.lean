import EvyV.Lemmas.MapVal
import EvyV.Spec.OrderedDict
/-!
C12 — maps keep insertion order. `MapVal` (Model/MapVal.lean: the Go map `pairs` and the slice `order` of
pkg/evaluator/value.go) refines the ordered dictionary of Spec/OrderedDict.lean.

A trap: `Spec.Dict V` and `GoMap V` are the same type, `List (Key × V)` (and `Spec.Key` is `EvyV.Key`); `Dict.del`,
`keys`, `has`, `get` are the same terms as their `GoMap` namesakes, only `set` is written differently
(`Dict.set_eq`). The `GoMap.…` lemmas are applied to `Dict` values below on purpose.
-/
namespace EvyV
open Spec

variable {V : Type}

theorem GoMap.lookup_del (m : GoMap V) (k k' : Key) :
    List.lookup k' (GoMap.del m k) = if k' = k then none else List.lookup k' m := by
  induction m with
  | nil => simp [GoMap.del]
  | cons p rest ih =>
    simp only [GoMap.del, List.filter_cons] at ih ⊢
    by_cases h : p.1 = k <;> simp only [h, decide_true, decide_false, Bool.not_true, Bool.not_false, if_true,
      Bool.false_eq_true, if_false, lookup_cons_ite, ih] <;> split <;> simp_all

theorem GoMap.keys_del (m : GoMap V) (k : Key) :
    GoMap.keys (GoMap.del m k) = (GoMap.keys m).filter (fun x => !decide (x = k)) := by
  simp [GoMap.keys, GoMap.del, List.filter_map, Function.comp_def]

theorem erase_eq_filter_ne {l : List Key} (d : l.Nodup) (k : Key) :
    l.erase k = l.filter (fun x => !decide (x = k)) := by
  rw [d.erase_eq_filter]
  exact List.filter_congr fun x _ => by cases h : decide (x = k) <;> simp_all

theorem MapVal.setKey_order (m : MapVal V) (k : Key) (v : V) :
    (m.setKey k v).order = if m.pairs.has k then m.order else m.order ++ [k] := by
  unfold MapVal.setKey; split <;> rfl

theorem Dict.set_eq (d : Dict V) (k : Key) (v : V) : Dict.set d k v = GoMap.set d k v := by
  induction d with
  | nil => rfl
  | cons p rest ih => simp only [Dict.set, GoMap.set, ih]

theorem Dict.ext : ∀ {d e : Dict V}, d.map Prod.fst = e.map Prod.fst → (d.map Prod.fst).Nodup →
    (∀ k, List.lookup k d = List.lookup k e) → d = e
  | [], e, hk, _, _ => (List.map_eq_nil_iff.1 hk.symm).symm
  | (a, b) :: d, [], hk, _, _ => by simp at hk
  | (a, b) :: d, (a', b') :: e, hk, hn, hl => by
    simp only [List.map_cons, List.cons.injEq, List.nodup_cons] at hk hn
    obtain ⟨rfl, hk⟩ := hk
    have hb := hl a
    simp only [List.lookup_cons_self, Option.some.injEq] at hb
    subst hb
    rw [Dict.ext hk hn.2]
    intro k
    by_cases e' : k = a
    · have : ∀ l : Dict V, a ∉ l.map Prod.fst → List.lookup a l = none := fun l h =>
        List.lookup_eq_none_iff.2 fun p hp => by simpa using fun e : a = p.1 => h (e ▸ List.mem_map_of_mem hp)
      rw [e', this d hn.1, this e (hk ▸ hn.1)]
    · simpa [lookup_cons_ite, e'] using hl k

/-- from a lookup function and a key order to the ordered dictionary (`C12.abs`) -/
def absOf (f : Key → Option V) (order : List Key) : List (Key × V) :=
  order.filterMap (fun k => (f k).map (fun v => (k, v)))

theorem lookup_absOf (f : Key → Option V) (order : List Key) (k : Key) :
    List.lookup k (absOf f order) = if k ∈ order then f k else none := by
  induction order with
  | nil => simp [absOf]
  | cons a rest ih =>
    simp only [absOf, List.filterMap_cons] at ih ⊢
    by_cases e : k = a
    · subst e
      cases hf : f k <;> simp [hf, ih]
    · cases f a <;> simp [ih, e, lookup_cons_ite]

theorem absOf_present (f : Key → Option V) (order : List Key) (h : ∀ k ∈ order, (f k).isSome) :
    (absOf f order).map Prod.fst = order ∧
    order.mapM (fun k => (f k).map (fun v => (k, v))) = some (absOf f order) := by
  induction order with
  | nil => exact ⟨rfl, rfl⟩
  | cons a rest ih =>
    obtain ⟨v, hv⟩ := Option.isSome_iff_exists.1 (h a (by simp))
    have := ih fun k hk => h k (by simp [hk])
    simp only [absOf] at this ⊢
    simp [hv, this]

end EvyV

namespace EvyV.C12
open Spec

variable {V : Type}

/-- The representation invariant: no duplicate in Order, no duplicate key in the
Go map, and a key is in Order exactly when it is in the Go map. -/
def Inv (m : MapVal V) : Prop :=
  m.order.Nodup ∧ (GoMap.keys m.pairs).Nodup ∧ ∀ k, k ∈ m.order ↔ GoMap.has m.pairs k = true

/-- Abstraction: the dictionary a `MapVal` denotes — its Order, each key with the
value the Go map holds for it. -/
def abs (m : MapVal V) : Dict V := absOf (fun k => m.pairs.get? k) m.order

theorem inv_iff_perm (m : MapVal V) : Inv m ↔ m.order.Nodup ∧ m.order.Perm (GoMap.keys m.pairs) := by
  simp only [Inv, GoMap.has_iff_mem_keys]
  exact ⟨fun h => ⟨h.1, (List.perm_ext_iff_of_nodup h.1 h.2.1).2 h.2.2⟩,
    fun h => ⟨h.1, h.2.nodup_iff.1 h.1, fun _ => h.2.mem_iff⟩⟩

theorem inv_empty : Inv (MapVal.empty : MapVal V) := by
  simp [Inv, MapVal.empty, GoMap.keys, GoMap.has]

theorem delete_order (m : MapVal V) (k : Key) (h : Inv m) :
    (m.delete k).order = m.order.filter (fun x => !decide (x = k)) := by
  unfold MapVal.delete; split
  · exact erase_eq_filter_ne h.1 k
  · rename_i hk
    exact (List.filter_eq_self.2 fun a ha => by simpa using fun e : a = k => hk ((h.2.2 k).1 (e ▸ ha))).symm

theorem inv_setKey (m : MapVal V) (k : Key) (v : V) (h : Inv m) : Inv (m.setKey k v) := by
  rw [inv_iff_perm] at h ⊢
  rw [MapVal.setKey_pairs, MapVal.setKey_order, GoMap.keys_set]
  split
  · exact h
  · -- a new key: appended to both
    rename_i hk
    refine ⟨List.nodup_append.2 ⟨h.1, by simp, ?_⟩, h.2.append_right _⟩
    rintro a ha _ hb rfl
    rw [List.mem_singleton.1 hb, h.2.mem_iff, ← GoMap.has_iff_mem_keys] at ha
    exact hk ha

theorem inv_delete (m : MapVal V) (k : Key) (h : Inv m) : Inv (m.delete k) := by
  rw [inv_iff_perm, MapVal.delete_pairs, delete_order m k h, GoMap.keys_del]
  rw [inv_iff_perm] at h
  exact ⟨h.1.filter _, h.2.filter _⟩

theorem Inv.present {m : MapVal V} (h : Inv m) : ∀ k ∈ m.order, (m.pairs.get? k).isSome :=
  fun k hk => (h.2.2 k).1 hk

/-- the denoted dictionary has `Order` as its key list … -/
theorem keys_abs (m : MapVal V) (h : Inv m) : (abs m).map Prod.fst = m.order :=
  (absOf_present _ _ h.present).1

/-- … and the Go map's lookup (so the missing-key panic, `has` and `len` agree with the dictionary) -/
theorem lookup_abs (m : MapVal V) (k : Key) (h : Inv m) : List.lookup k (abs m) = List.lookup k m.pairs := by
  rw [abs, lookup_absOf]
  split
  · rfl
  · rename_i hm
    cases hg : List.lookup k m.pairs with
    | none => rfl
    | some v => exact absurd ((h.2.2 k).2 (by rw [GoMap.has, hg]; rfl)) hm

theorem get_abs (m : MapVal V) (k : Key) (h : Inv m) : m.get k = Dict.get (abs m) k := (lookup_abs m k h).symm

theorem has_abs (m : MapVal V) (k : Key) (h : Inv m) : m.has k = Dict.has (abs m) k :=
  congrArg Option.isSome (get_abs m k h)

theorem len_abs (m : MapVal V) (h : Inv m) : m.len = Dict.len (abs m) := by
  rw [Dict.len, ← List.length_map (f := Prod.fst), keys_abs m h, ((inv_iff_perm m).1 h).2.length_eq]
  simp [MapVal.len, GoMap.len, GoMap.keys]

/-- insertion / overwrite refines the dictionary's `set`: an overwrite keeps the
key's position, a new key is appended. -/
theorem abs_setKey (m : MapVal V) (k : Key) (v : V) (h : Inv m) :
    abs (m.setKey k v) = Dict.set (abs m) k v := by
  have h' := inv_setKey m k v h
  rw [Dict.set_eq]
  refine Dict.ext ?_ (by rw [keys_abs _ h']; exact h'.1) fun k' => ?_
  · rw [keys_abs _ h', MapVal.setKey_order, ← GoMap.keys, GoMap.keys_set, GoMap.keys, keys_abs _ h]
    rw [show GoMap.has (abs m) k = m.pairs.has k from (has_abs m k h).symm]
  · rw [lookup_abs _ _ h', MapVal.setKey_pairs, GoMap.lookup_set, GoMap.lookup_set, lookup_abs _ _ h]

/-- deletion refines the dictionary's `del`. -/
theorem abs_delete (m : MapVal V) (k : Key) (h : Inv m) :
    abs (m.delete k) = Dict.del (abs m) k := by
  have h' := inv_delete m k h
  refine Dict.ext ?_ (by rw [keys_abs _ h']; exact h'.1) fun k' => ?_
  · rw [keys_abs _ h', delete_order m k h, ← keys_abs m h]
    exact (GoMap.keys_del (abs m) k).symm
  · rw [lookup_abs _ _ h', MapVal.delete_pairs, GoMap.lookup_del, ← lookup_abs _ _ h]
    exact (GoMap.lookup_del (abs m) k k').symm

/-- printing / iteration order: the entries come out in insertion order and the
nil-dereference (`none`) is unreachable. -/
theorem entries_abs (m : MapVal V) (h : Inv m) : m.entries = some (abs m) :=
  (absOf_present _ _ h.present).2

def specStep (d : Dict V) : MapOp V → Dict V
  | .set k v => Dict.set d k v
  | .del k => Dict.del d k

theorem inv_step (m : MapVal V) (op : MapOp V) (h : Inv m) : Inv (m.step op) := by
  cases op with
  | set k v => exact inv_setKey m k v h
  | del k => exact inv_delete m k h

theorem abs_step (m : MapVal V) (op : MapOp V) (h : Inv m) : abs (m.step op) = specStep (abs m) op := by
  cases op with
  | set k v => exact abs_setKey m k v h
  | del k => exact abs_delete m k h

/-- Every history: after any finite sequence of insertions, overwrites and
deletions the map is in step and denotes what the dictionary specification
says (so printing, lookup, has, len agree by the theorems above). -/
theorem history_refines (ops : List (MapOp V)) (m : MapVal V) (h : Inv m) :
    Inv (ops.foldl MapVal.step m) ∧ abs (ops.foldl MapVal.step m) = ops.foldl specStep (abs m) :=
  List.foldl_rel (r := fun c d => Inv c ∧ abs c = d) ⟨h, rfl⟩
    fun op _ c _ ⟨hc, e⟩ => ⟨inv_step c op hc, e ▸ abs_step c op hc⟩

theorem history_from_empty (ops : List (MapOp V)) :
    abs (ops.foldl MapVal.step (MapVal.empty : MapVal V)) = ops.foldl specStep ([] : Dict V) :=
  (history_refines ops (MapVal.empty : MapVal V) inv_empty).2

theorem spec_overwrite_keeps_position (d : Dict V) (k : Key) (v : V) (h : Dict.has d k = true) :
    Dict.keys (Dict.set d k v) = Dict.keys d := by
  rw [Dict.set_eq]; exact (GoMap.keys_set d k v).trans (if_pos h)

theorem spec_new_key_goes_last (d : Dict V) (k : Key) (v : V) (h : Dict.has d k = false) :
    Dict.keys (Dict.set d k v) = Dict.keys d ++ [k] := by
  rw [Dict.set_eq]; exact (GoMap.keys_set d k v).trans (if_neg (by rw [show GoMap.has d k = false from h]; simp))

theorem spec_delete_reinsert_moves_to_end (d : Dict V) (k : Key) (v : V) :
    Dict.keys (Dict.set (Dict.del d k) k v) = (Dict.keys d).filter (fun x => !decide (x = k)) ++ [k] := by
  rw [spec_new_key_goes_last _ _ _ (by rw [Dict.has, show Dict.del d k = GoMap.del d k from rfl, GoMap.lookup_del, if_pos rfl]; rfl)]
  exact congrArg (· ++ [k]) (GoMap.keys_del d k)

/-- The specification of `for k := range m` with a body that may change the map
(`Spec.Dict.rangeLoop`). -/
abbrev specRangeLoop (body : Key → Dict V → Dict V) := Dict.rangeLoop body

theorem range_refines (body : Key → MapVal V → MapVal V) (sbody : Key → Dict V → Dict V)
    (hinv : ∀ k m, Inv m → Inv (body k m))
    (habs : ∀ k m, Inv m → abs (body k m) = sbody k (abs m))
    (ks : List Key) (m : MapVal V) (h : Inv m) :
    (mapRangeLoop body ks m).1 = (specRangeLoop sbody ks (abs m)).1 ∧
    abs (mapRangeLoop body ks m).2 = (specRangeLoop sbody ks (abs m)).2 ∧
    Inv (mapRangeLoop body ks m).2 := by
  induction ks generalizing m with
  | nil => exact ⟨rfl, rfl, h⟩
  | cons k rest ih =>
    simp only [mapRangeLoop, specRangeLoop, Dict.rangeLoop, ← show m.has k = _ from has_abs m k h, MapVal.has]
    split
    · have := ih (body k m) (hinv k m h)
      rw [habs k m h] at this
      exact ⟨by rw [this.1], this.2.1, this.2.2⟩
    · exact ih m h

/-- keys that are not in the snapshot taken at loop entry are never visited
(keys added while iterating), and visited keys come in snapshot order. -/
theorem range_visits_sublist (body : Key → MapVal V → MapVal V) (ks : List Key) (m : MapVal V) :
    (mapRangeLoop body ks m).1.Sublist ks := by
  induction ks generalizing m with
  | nil => simp [mapRangeLoop]
  | cons k rest ih =>
    simp only [mapRangeLoop]
    split
    · exact (ih (body k m)).cons_cons k
    · exact (ih m).cons k

theorem mapRangeLoop_id (m : MapVal V) : ∀ l : List Key, (∀ k ∈ l, GoMap.has m.pairs k = true) →
    (mapRangeLoop (fun _ m => m) l m).1 = l
  | [], _ => rfl
  | a :: rest, hl => by
    simp only [mapRangeLoop, hl a (by simp), if_true]
    rw [mapRangeLoop_id m rest fun k hk => hl k (by simp [hk])]

/-- a loop whose body does not touch the map visits exactly the keys in
insertion order. -/
theorem range_no_mutation (m : MapVal V) (h : Inv m) :
    (mapRange (fun _ m => m) m).1 = m.order :=
  mapRangeLoop_id m m.order h.present

/-- Map equality never looks at the order. -/
theorem equals_order_free (veq : V → V → Bool) (m m2 : MapVal V) (o o2 : List Key) :
    MapVal.equals veq m m2 = MapVal.equals veq { m with order := o } { m2 with order := o2 } := rfl

/-- … and compares values through the supplied (deep) element equality: two maps
are equal iff they have the same number of entries and every entry of the first
has an equal partner under the same key in the second. -/
theorem equals_iff (veq : V → V → Bool) (m m2 : MapVal V) :
    MapVal.equals veq m m2 = true ↔
      m.len = m2.len ∧ ∀ p ∈ m.pairs, ∃ v2, m2.get p.1 = some v2 ∧ veq p.2 v2 = true := by
  unfold MapVal.equals MapVal.len MapVal.get
  simp only [Bool.and_eq_true, beq_iff_eq, List.all_eq_true]
  refine and_congr_right fun _ => forall₂_congr fun p _ => ?_
  cases GoMap.get? m2.pairs p.1 <;> simp

/-- literal construction (duplicate keys are rejected by the parser). -/
theorem inv_ofLiteral_nil : Inv (MapVal.ofLiteral ([] : List (Key × V))) := inv_empty

def ka : Key := ['a']
def kb : Key := ['b']
def kc : Key := ['c']
example : abs ((((MapVal.empty : MapVal Nat).setKey ka 1).setKey kb 2).setKey ka 3) = [(ka, 3), (kb, 2)] := by decide
example : abs (((((MapVal.empty : MapVal Nat).setKey ka 1).setKey kb 2).delete ka).setKey ka 4) = [(kb, 2), (ka, 4)] := by decide
example : (mapRange (fun k m => if k = ka then (m.delete kb).setKey kc 9 else m)
    ((((MapVal.empty : MapVal Nat).setKey ka 1).setKey kb 2))).1 = [ka] := by decide

end EvyV.C12
