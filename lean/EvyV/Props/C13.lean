import EvyV.Lemmas.Interp
import EvyV.Lemmas.Builtins
import EvyV.Gen.Tables
/-!
C13 — built-in functions do what their documentation says (the glue around the
Go library functions; the library functions themselves are the oracle `ext`).
-/
namespace EvyV.C13
variable {F : Type} (ops : NumOps F) (ext : Ext F) (prog : Program F)

/-- the builtin table of the model is the table of newBuiltins (regenerated) -/
theorem builtins_covered :
    (∀ n ∈ Gen.builtinNames, n ∈ builtinNames) ∧ (∀ n ∈ builtinNames, n ∈ Gen.builtinNames) := by decide +kernel

/-- the error classes are as the evaluator documents them: which sentinel wraps ErrPanic and
which ErrInternal (regenerated) -/
theorem sentinel_classes : Gen.sentinels =
    [("ErrAnyConversion", "panic"), ("ErrAssignmentTarget", "internal"), ("ErrBadArguments", "panic"),
     ("ErrBadRepetition", "panic"), ("ErrBounds", "panic"), ("ErrIndexValue", "panic"), ("ErrInternal", "root"),
     ("ErrMapKey", "panic"), ("ErrOperation", "internal"), ("ErrPanic", "root"), ("ErrRangeType", "internal"),
     ("ErrRangevalue", "panic"), ("ErrSlice", "panic"), ("ErrStopped", "root"), ("ErrTest", "root"),
     ("ErrType", "internal"), ("ErrUnknownNode", "internal"), ("ErrVarNotSet", "panic")] := by rfl

/-- `len` of a string is its number of code points -/
theorem len_is_codepoints (st : St F) (t : Ty) (s : Str) :
    callBuiltin ops ext (lit "len") [.any t (.str s)] st = some (.ok (.num (ops.ofInt s.length)) st) := by
  rfl

/-- `len` of anything but string/array/map is the bad-arguments panic -/
theorem len_other_is_panic (st : St F) (t : Ty) (v : F) :
    callBuiltin ops ext (lit "len") [.any t (.num v)] st = some (.err (.panic .badArgs) st) := by
  rfl

/-- err/errmsg after a str2bool call are (failed?, message) of THAT call: reset on success … -/
theorem str2bool_success_resets (st : St F) (s : Str) (b : Bool) (h : parseBool s = some b) :
    callBuiltin ops ext (lit "str2bool") [.str s] st = some (.ok (.bool b) (setGlobalErr st false [])) := by
  rw [callBuiltin_str2bool, h]

/-- … and set on failure, whatever they were before -/
theorem str2bool_failure_sets (st : St F) (s : Str) (h : parseBool s = none) :
    ∃ msg st', callBuiltin ops ext (lit "str2bool") [.str s] st = some (.ok (.bool false) (setGlobalErr st' true msg)) := by
  rw [callBuiltin_str2bool, h]
  exact ⟨_, _, rfl⟩

/-- the protocol writes both globals, independent of their previous values (so err never stays
set after a success) -/
theorem setGlobalErr_overwrites (st : St F) (isErr : Bool) (msg : Str) :
    scopeGet (setGlobalErr st isErr msg).global (lit "err") = some (.bool isErr) ∧
    scopeGet (setGlobalErr st isErr msg).global (lit "errmsg") = some (.str msg) := by
  unfold setGlobalErr
  simp only [scopeGet_scopeSet]
  constructor
  · have : lit "err" ≠ lit "errmsg" := by decide
    simp [this]
  · simp

/-- exactly the spellings of the documentation (plus the ones strconv.ParseBool adds: t T f F) -/
theorem parseBool_domain (s : Str) (b : Bool) (h : parseBool s = some b) :
    String.ofList s ∈ ["1", "t", "T", "TRUE", "true", "True", "0", "f", "F", "FALSE", "false", "False"] := by
  unfold parseBool at h
  simp only at h
  split at h
  · rename_i hc; rcases hc with h1 | h1 | h1 | h1 | h1 | h1 <;> simp [h1]
  · split at h
    · rename_i hc; rcases hc with h1 | h1 | h1 | h1 | h1 | h1 <;> simp [h1]
    · simp at h

/-- `rand n`: every n outside [1, 2^31-1] — including NaN, for which both comparisons are
false — is the documented bad-arguments panic; the host function is never reached -/
theorem rand_domain (st : St F) (u : F) (h : (ops.le ops.one u && ops.le u (ops.ofInt 2147483647)) = false) :
    callBuiltin ops ext (lit "rand") [.num u] st = some (.err (.panic .badArgs) st) := by
  rw [callBuiltin_rand, h]; rfl

/-- `exit n` ends the run with status int(n); `panic s` is the user panic -/
theorem exit_status (st : St F) (n : F) :
    callBuiltin ops ext (lit "exit") [.num n] st = some (.err (.exit (ops.toInt n)) st) := by rfl

theorem panic_is_user_panic (st : St F) (s : Str) :
    callBuiltin ops ext (lit "panic") [.str s] st = some (.err (.panic .user) st) := by rfl

/-- `typeof` reports the static type recorded when the value was wrapped into `any` -/
theorem typeof_is_recorded_type (st : St F) (t : Ty) (v : Val F) :
    callBuiltin ops ext (lit "typeof") [.any t v] st = some (.ok (.str t.show) st) := by rfl

/-- `has` / `del` act on the shared map object -/
theorem has_is_membership (st : St F) (a : Nat) (m : MapVal (Val F)) (k : Str) (h : heapGet st a = some (.map m)) :
    callBuiltin ops ext (lit "has") [.map a, .str k] st = some (.ok (.bool (m.has k)) st) := by
  rw [callBuiltin_has, h]

theorem del_deletes (st : St F) (a : Nat) (m : MapVal (Val F)) (k : Str) (h : heapGet st a = some (.map m)) :
    callBuiltin ops ext (lit "del") [.map a, .str k] st = some (.ok .none (heapSet st a (.map (m.delete k)))) := by
  rw [callBuiltin_del, h]

/-- test bookkeeping: every `test` call counts once; a failed comparison counts as a failure and,
without fail-fast, execution continues -/
theorem test_counts (n : Nat) (args : List (Expr F)) (st st' st'' : St F) (vs : List (Val F))
    (ha : evalList ops ext prog n args st = .ok vs st') :
    (callBuiltin ops ext (lit "test") vs st' = some (.ok .none st'') →
      evalCall ops ext prog (n + 1) (lit "test") args st = .ok .none { st'' with testTotal := st''.testTotal + 1 }) ∧
    (callBuiltin ops ext (lit "test") vs st' = some (.err (.internal "ErrTest") st'') → st''.failFast = false →
      evalCall ops ext prog (n + 1) (lit "test") args st =
        .ok .none { st'' with testTotal := st''.testTotal + 1, testFails := st''.testFails + 1 }) := by
  constructor
  · intro h; rw [evalCall_succ, ha, Res.bind_ok, h]; simp [ofList_lit, testBook]
  · intro h hf; rw [evalCall_succ, ha, Res.bind_ok, h]; simp [ofList_lit, testBook, hf]

/-- the summary: total = passed + failed -/
theorem summary_counts (st : St F) (h : st.testFails ≤ st.testTotal) :
    (st.testTotal - st.testFails) + st.testFails = st.testTotal := by omega

end EvyV.C13
