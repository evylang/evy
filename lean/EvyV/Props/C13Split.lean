import EvyV.Props.C13Str
/-!
C13, `split` and `replace`, which the evaluator model computes itself (Model/Builtins.lean `strSplit`,
`strReplace`: transcriptions of strings.Split / strings.ReplaceAll, tied to the real built-ins by the
correspondence run), for all strings (lists of code points).

docs/builtins.md: "split splits the string s into substrings separated by sep and returns an array of the
substrings between those separators"; "join concatenates the elements of its first argument to create a single
string. The separator string sep is placed between elements in the resulting string"; "replace returns a copy
of the string s with all non-overlapping instances of old replaced by new".
-/
namespace EvyV.C13

theorem joinWith_cons (sep x : Str) (l : List Str) (h : l ≠ []) :
    joinWith sep (x :: l) = x ++ sep ++ joinWith sep l := by
  cases l with
  | nil => exact absurd rfl h
  | cons y ys => rfl

theorem splitSep_ne_nil (sep s cur : Str) : splitSep sep s cur ≠ [] := by
  fun_induction splitSep sep s cur <;> simp_all

/-- a match of a non-empty separator at the head: what `splitSep` skips is exactly the separator -/
theorem isPrefix_drop (sep : Str) (c : Char) (rest : Str) (hs : sep ≠ [])
    (h : isPrefix sep (c :: rest) = true) : c :: rest = sep ++ rest.drop (sep.length - 1) := by
  cases sep with
  | nil => exact absurd rfl hs
  | cons a as => simpa using (List.prefix_iff_eq_append.1 ((isPrefix_iff _ _).1 h)).symm

theorem strSplit_of_ne (s : Str) {sep : Str} (hs : sep ≠ []) : strSplit s sep = splitSep sep s [] := by
  cases sep with
  | nil => exact absurd rfl hs
  | cons a as => rfl

theorem splitSep_join (sep : Str) (hs : sep ≠ []) (s cur : Str) :
    joinWith sep (splitSep sep s cur) = cur.reverse ++ s := by
  fun_induction splitSep sep s cur with
  | case1 cur => simp [joinWith]
  | case2 c rest cur hp ih =>
    rw [joinWith_cons _ _ _ (splitSep_ne_nil _ _ _), ih]
    simp only [List.reverse_nil, List.nil_append, List.append_assoc]
    rw [← isPrefix_drop sep c rest hs hp]
  | case3 c rest cur hp ih => rw [ih]; simp

theorem join_singletons (s : Str) : joinWith [] (s.map (fun c => [c])) = s := by
  induction s with
  | nil => rfl
  | cons c rest ih =>
    cases rest with
    | nil => rfl
    | cons d r => simp only [List.map_cons, joinWith] at ih ⊢; simp [ih]

/-- **join undoes split**, for every string and every separator -/
theorem split_join (s sep : Str) : joinWith sep (strSplit s sep) = s := by
  by_cases hs : sep = []
  · subst hs; exact join_singletons s
  · simpa [strSplit_of_ne s hs] using splitSep_join sep hs s []

theorem split_nonempty (s sep : Str) (hs : sep ≠ []) : strSplit s sep ≠ [] :=
  strSplit_of_ne s hs ▸ splitSep_ne_nil _ _ _

theorem split_empty_sep (s : Str) : strSplit s [] = s.map (fun c => [c]) := by
  simp [strSplit]

/-- no occurrence of `sep` in `p`, at any position -/
def Free (sep p : Str) : Prop := ∀ j, ¬ sep <+: p.drop j

/-- the invariant of the scan: no occurrence of the separator begins inside the current piece -/
theorem free_of_scan {sep : Str} (hs : sep ≠ []) (s cur : Str)
    (H : ∀ j < cur.length, ¬ sep <+: (cur.reverse ++ s).drop j) : Free sep cur.reverse := by
  intro j hj
  by_cases hl : j < cur.length
  · exact H j hl (List.drop_append ▸ hj.trans (List.prefix_append _ _))
  · rw [List.drop_eq_nil_of_le (by simp; omega)] at hj
    exact hs (List.prefix_nil.mp hj)

theorem splitSep_free (sep : Str) (hs : sep ≠ []) (s cur : Str)
    (H : ∀ j < cur.length, ¬ sep <+: (cur.reverse ++ s).drop j) :
    ∀ p ∈ splitSep sep s cur, Free sep p := by
  fun_induction splitSep sep s cur with
  | case1 cur => simpa using free_of_scan hs [] cur H
  | case2 c rest cur hp ih =>
    intro p hmem
    rcases List.mem_cons.1 hmem with rfl | hmem
    · exact free_of_scan hs _ cur H
    · exact ih (by intro j hj; simp at hj) p hmem
  | case3 c rest cur hp ih =>
    refine ih fun j hj => ?_
    simp only [List.length_cons] at hj
    simp only [List.reverse_cons, List.append_assoc, List.singleton_append]
    by_cases hl : j < cur.length
    · exact H j hl
    · obtain rfl : j = cur.length := by omega
      rw [List.drop_append_of_le_length (by simp), List.drop_eq_nil_of_le (by simp)]
      exact fun hpre => hp ((isPrefix_iff sep (c :: rest)).mpr hpre)

/-- **the pieces are what lies between separators**: none of them contains the separator -/
theorem split_pieces_free (s sep : Str) (hs : sep ≠ []) : ∀ p ∈ strSplit s sep, Free sep p :=
  strSplit_of_ne s hs ▸ splitSep_free sep hs s [] (by intro j hj; simp at hj)

theorem splitSep_no_sep (sep : Str) (s cur : Str) (H : Free sep s) :
    splitSep sep s cur = [cur.reverse ++ s] := by
  fun_induction splitSep sep s cur with
  | case1 cur => simp
  | case2 c rest cur hp ih => exact absurd ((isPrefix_iff _ _).mp hp) (by simpa using H 0)
  | case3 c rest cur hp ih =>
    rw [ih (by intro j; simpa using H (j + 1))]
    simp

/-- a string in which the separator does not occur is the only piece -/
theorem split_no_sep (s sep : Str) (hs : sep ≠ []) (H : Free sep s) : strSplit s sep = [s] := by
  simpa [strSplit_of_ne s hs] using splitSep_no_sep sep s [] H

theorem replace_eq (s old new : Str) (ho : old ≠ []) :
    strReplace s old new = joinWith new (strSplit s old) := by
  cases old with
  | nil => exact absurd rfl ho
  | cons a as => rfl

/-- replacing `old` by itself gives the string back -/
theorem replace_self (s old : Str) : strReplace s old old = s := by
  unfold strReplace
  split
  · rename_i h
    have : old = [] := by simpa using h
    subst this
    induction s with
    | nil => rfl
    | cons c rest ih => simpa using ih
  · exact split_join s old

/-- replacing something that does not occur changes nothing -/
theorem replace_absent (s old new : Str) (ho : old ≠ []) (H : Free old s) : strReplace s old new = s := by
  rw [replace_eq s old new ho, split_no_sep s old ho H]
  rfl

/-! non-vacuity and the overlapping case: the scan goes on BEHIND a match (leftmost, non-overlapping) -/
example : strSplit "aaa".toList "aa".toList = ["".toList, "a".toList] := by
  simp [strSplit, splitSep, isPrefix]
example : strSplit ",a,,b,".toList ",".toList = [[], ['a'], [], ['b'], []] := by
  simp [strSplit, splitSep, isPrefix]
example : strReplace "abc".toList [] ['-'] = "-a-b-c-".toList := by
  simp [strReplace]
example : Free ",".toList "ab".toList := by
  intro j
  match j with
  | 0 => simp
  | 1 => simp
  | (n + 2) => simp

end EvyV.C13
