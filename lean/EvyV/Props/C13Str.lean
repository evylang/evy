import EvyV.Model.Builtins
/-!
C13, the string built-ins whose logic is in the model itself (not behind the library oracle):
`startswith`, `endswith`, `index`, and the separator logic of `join` — what docs/builtins.md says, for all
strings (lists of code points).
-/
namespace EvyV.C13

/-- `startswith s p`: p is an initial part of s -/
theorem isPrefix_iff (p s : Str) : isPrefix p s = true ↔ p <+: s := by
  induction p generalizing s <;> cases s <;> simp [isPrefix, *]

/-- `endswith s p`: p is a final part of s -/
theorem endswith_iff (p s : Str) : isPrefix p.reverse s.reverse = true ↔ p <:+ s := by
  rw [isPrefix_iff, List.reverse_prefix]

/-- the position of the FIRST occurrence of `sub` (counted from `i`), or -1 -/
theorem strIndex_spec (s sub : Str) (i : Nat) :
    (∃ j ≤ s.length, strIndex s sub i = ((i + j : Nat) : Int) ∧ sub <+: s.drop j ∧ ∀ j' < j, ¬ sub <+: s.drop j') ∨
    (strIndex s sub i = -1 ∧ ∀ j ≤ s.length, ¬ sub <+: s.drop j) := by
  induction s generalizing i with
  | nil =>
    cases sub with
    | nil => exact Or.inl ⟨0, Nat.le_refl _, rfl, List.nil_prefix, fun _ h => absurd h (Nat.not_lt_zero _)⟩
    | cons a as => exact Or.inr ⟨rfl, fun j _ => by simp⟩
  | cons c rest ih =>
    simp only [strIndex]
    split
    · rename_i hp
      exact Or.inl ⟨0, Nat.zero_le _, rfl, (isPrefix_iff _ _).1 hp, fun _ h => absurd h (Nat.not_lt_zero _)⟩
    · rename_i hp
      have h0 : ¬ sub <+: (c :: rest).drop 0 := fun h => hp ((isPrefix_iff _ _).2 h)
      rcases ih (i + 1) with ⟨j, hj, he, hpre, hfirst⟩ | ⟨he, hnone⟩
      · refine Or.inl ⟨j + 1, Nat.succ_le_succ hj, by rw [he]; congr 1; omega, hpre, fun j' hj' => ?_⟩
        cases j' with
        | zero => exact h0
        | succ j'' => exact hfirst j'' (Nat.lt_of_succ_lt_succ hj')
      · refine Or.inr ⟨he, fun j hj => ?_⟩
        cases j with
        | zero => exact h0
        | succ j0 => exact hnone j0 (Nat.le_of_succ_le_succ hj)

/-- `index` when not -1: `sub` occurs at the returned position … -/
theorem strIndex_found (s sub : Str) (i : Nat) (k : Int) (h : strIndex s sub i = k) (hk : k ≠ -1) :
    ∃ j : Nat, k = (i + j : Nat) ∧ j ≤ s.length ∧ sub <+: s.drop j := by
  rcases strIndex_spec s sub i with ⟨j, hj, he, hpre, _⟩ | ⟨he, _⟩
  · exact ⟨j, h ▸ he, hj, hpre⟩
  · exact absurd (h ▸ he) hk

/-- … and at no earlier position -/
theorem strIndex_first (s sub : Str) (i : Nat) (j : Nat) (h : strIndex s sub i = ((i + j : Nat) : Int)) :
    ∀ j' < j, ¬ sub <+: s.drop j' := by
  rcases strIndex_spec s sub i with ⟨j0, _, he, _, hfirst⟩ | ⟨he, _⟩
  · obtain rfl : j0 = j := by omega
    exact hfirst
  · omega

/-- `index` is -1 exactly when `sub` occurs nowhere -/
theorem strIndex_none (s sub : Str) (i : Nat) (h : strIndex s sub i = -1) : ∀ j ≤ s.length, ¬ sub <+: s.drop j := by
  rcases strIndex_spec s sub i with ⟨j, _, he, _, _⟩ | ⟨_, hnone⟩
  · omega
  · exact hnone

/-- `index`: -1 when the substring starts nowhere -/
theorem index_not_found (s sub : Str) (h : ∀ i, ¬ isPrefix sub (s.drop i) = true) (hs : sub ≠ []) :
    strIndex s sub 0 = -1 := by
  have _ := hs -- not needed: `h 0` already excludes the empty `sub`
  rcases strIndex_spec s sub 0 with ⟨j, _, _, hpre, _⟩ | ⟨he, _⟩
  · exact absurd ((isPrefix_iff _ _).2 hpre) (h j)
  · exact he

/-- the separator of `join` stands between consecutive elements only -/
theorem joinWith_eq (sep : Str) (l : List Str) : joinWith sep l = (l.intersperse sep).flatten := by
  induction l with
  | nil => rfl
  | cons x rest ih => cases rest <;> simp [joinWith, List.intersperse, ← ih]

example : strIndex (lit "hello") (lit "l") 0 = 2 := by decide
example : strIndex (lit "hello") (lit "") 0 = 0 := by decide
example : strIndex (lit "") (lit "") 0 = 0 := by decide
example : strIndex (lit "hello") (lit "z") 0 = -1 := by decide
example : joinWith (lit ", ") [lit "a", lit "b", lit "c"] = lit "a, b, c" := by decide

end EvyV.C13
