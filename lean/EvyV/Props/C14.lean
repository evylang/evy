import EvyV.Props.TwoRun
/-!
C14 — running programs stay interruptible and stop cleanly.

In the model every entry into Go's `eval` is a `tick`: stop check, then one
yield, and the platform raises the flag during yield `stopAt`.
-/
namespace EvyV.C14
variable {F : Type} (ops : NumOps F) (ext : Ext F) (prog : Program F)

/-- every entry into `eval` (expression, statement, block) yields exactly once before doing
anything else, or returns 'stopped' without doing anything when the flag is up -/
theorem entry_yields_once (st : St F) :
    (st.stopped = true ∧ tick st = none) ∨
    (st.stopped = false ∧ ∃ st', tick st = some st' ∧ st'.yields = st.yields + 1 ∧ st'.trace = st.trace) := by
  cases h : st.stopped
  · right; exact ⟨rfl, _, tick_running st h, rfl, rfl⟩
  · left; exact ⟨rfl, tick_stopped st h⟩

/-- the flag is raised exactly during yield number `k` -/
theorem flag_raised_at_k (st st' : St F) (k : Nat) (hk : st.stopAt = some k) (ht : tick st = some st') :
    st'.stopped = true ↔ st.yields + 1 = k := by
  obtain ⟨_, rfl⟩ := tick_eq ht
  simp only [hk, beq_iff_eq, Option.some.injEq]
  exact eq_comm

/-- without a stop request the flag is never raised -/
theorem never_stopped_without_request (st st' : St F) (hk : st.stopAt = none) (ht : tick st = some st') :
    st'.stopped = false ∧ st'.stopAt = none := by
  obtain ⟨_, rfl⟩ := tick_eq ht
  simp [hk]

/-- **Clean stop**: once the flag is up, evaluating any expression, statement or block returns
'stopped' and leaves the state — effects, variables, heap — exactly as it was. -/
theorem stop_is_clean (n : Nat) (st : St F) (h : st.stopped = true) :
    (∀ e, evalE ops ext prog (n + 1) e st = .err .stopped st) ∧
    (∀ s, execS ops ext prog (n + 1) s st = .err .stopped st) ∧
    (∀ b, execBlockNode ops ext prog (n + 1) b st = .err .stopped st) :=
  ⟨fun e => stopped_expr ops ext prog n e st h, fun s => stopped_stmt ops ext prog n s st h,
   fun b => stopped_block ops ext prog n b st h⟩

/-- errors (in particular 'stopped') propagate out of statement sequences: nothing after the
failing statement is executed -/
theorem stmts_stop_at_error (n : Nat) (s : Stmt F) (rest : List (Stmt F)) (st st' : St F) (o : Outcome)
    (h : execS ops ext prog n s st = .err o st') :
    execStmts ops ext prog (n + 1) (s :: rest) st = .err o st' := by
  simp [execStmts, h]

/-- a while loop re-evaluates its condition (at least one yield) before every iteration, and
runs the body through a block node (another yield) -/
theorem while_next_iteration (n : Nat) (c : Expr F) (body : List (Stmt F)) (st st' : St F)
    (h : execCond ops ext prog n c body st = .ok (.normal, true) st') :
    execWhile ops ext prog (n + 1) c body st = execWhile ops ext prog n c body st' := by
  simp [execWhile, h]

theorem while_tests_first (n : Nat) (c : Expr F) (body : List (Stmt F)) (st st' : St F) (comp : Completion F)
    (h : execCond ops ext prog n c body st = .ok (comp, false) st') :
    execWhile ops ext prog (n + 1) c body st = .ok .normal st' := by
  simp [execWhile, h]

theorem while_stops_on_error (n : Nat) (c : Expr F) (body : List (Stmt F)) (st st' : St F) (o : Outcome)
    (h : execCond ops ext prog n c body st = .err o st') :
    execWhile ops ext prog (n + 1) c body st = .err o st' := by
  simp [execWhile, h]

/-- every iteration of a for loop runs the body through a block node, i.e. through `tick` -/
theorem for_iteration_ticks (n : Nat) (lv : Str) (r r' : Ranger F) (body : List (Stmt F)) (st st1 : St F) (v : Val F)
    (hn : rangerNext ops st r = some (v, r')) (hu : updateVar st lv v = some st1) (hs : st1.stopped = true) :
    execForLoop ops ext prog (n + 2) lv r body st = .err .stopped (popScope (pushScope st1)) := by
  have : (pushScope st1).stopped = true := by simp [pushScope, hs]
  simp [execForLoop, hn, hu, stopped_block ops ext prog n body (pushScope st1) this]

/-- every call of a user function runs its body through a block node, i.e. through `tick` -/
theorem body_is_block_node (n : Nat) (b : List (Stmt F)) (st : St F) :
    execBlockNode ops ext prog (n + 1) b st =
      match tick st with
      | none => .err .stopped st
      | some st' => execStmts ops ext prog n b st' := by
  simp only [execBlockNode]
  cases tick st <;> rfl

/-- the report printed after a stop is the test summary only -/
theorem only_summary_follows (st : St F) :
    (testReport st).trace = st.trace ∨ ∃ s, (testReport st).trace = .print s :: st.trace := by
  unfold testReport
  split
  · left; rfl
  · split <;> (right; exact ⟨_, rfl⟩)

/-- **whole programs**: through any execution a raised stop flag stays raised, the stop request is
untouched, yields only increase and the platform trace is only extended (nothing already done is
undone when a program is stopped) -/
theorem stop_is_latched_everywhere (n : Nat) (b : List (Stmt F)) (st : St F) :
    let st' := (execStmts ops ext prog n b st).st
    (st.stopped = true → st'.stopped = true) ∧ st'.stopAt = st.stopAt ∧ st.yields ≤ st'.yields ∧
    ∃ suf, st'.trace = suf ++ st.trace := stop_latched_effects_kept ops ext prog n b st

/-- the effects in the order in which they happened -/
def effects (st : St F) : List (Effect F) := st.trace.reverse

theorem TrLe.prefix {a b : St F} (h : TrLe a b) : effects a <+: effects b := by
  obtain ⟨suf, hs⟩ := h
  exact ⟨suf.reverse, by simp [effects, hs]⟩

/-- **the effects of a stopped run are a prefix of those of the uninterrupted run** (only the test summary
may follow). Run the program from the same state once with the request "raise the stop flag during yield k"
and once without any request, with any step budget. Then both runs end with the test report applied to
states a' and b', and
* either the request was never reached (or both runs ended before it mattered): same result, and a' is
  b' but for the request and the flag;
* or the first run ends with `stopped`, its flag up, and everything it did up to then is an initial part, in
  order, of what the uninterrupted run does. -/
theorem stopped_run_effects_are_a_prefix (k : Nat) (fuel : Nat) (b : St F) (hb : b.stopAt = none) :
    ∃ a' b', (runProgram ops ext prog fuel { b with stopAt := some k }).2 = testReport a' ∧
      (runProgram ops ext prog fuel b).2 = testReport b' ∧
      (((runProgram ops ext prog fuel { b with stopAt := some k }).1 = (runProgram ops ext prog fuel b).1 ∧
          ∃ x, a' = ov (some k) x b') ∨
       ((runProgram ops ext prog fuel { b with stopAt := some k }).1 = .err .stopped ∧ a'.stopped = true ∧
          effects a' <+: effects b')) := by
  rw [← ov_false (some k) b, runProgram_eq, runProgram_eq]
  have h := ((tickR_two (x := false)).bind fun _ x t => (walk ops ext prog (some k) fuel).stmts prog.stmts t x).rel hb
  -- the two results as variables: otherwise `cases` on the `Rel` fails
  generalize (tickR (ov (some k) false b)).bind _ = ra at h ⊢
  generalize (tickR b).bind _ = rb at h ⊢
  cases h with
  | ok c x2 a t ha ht =>
    subst ha
    refine ⟨ov (some k) x2 t, t, ?_, ?_, Or.inl ⟨?_, x2, rfl⟩⟩
    -- the verdict reads `testFails`, which `ov` keeps
    all_goals simp only [finishRun, testReport_ov, ov_testFails]
    all_goals split <;> rfl
  | err o x2 a t ha ht => subst ha; exact ⟨ov (some k) x2 t, t, rfl, rfl, Or.inl ⟨rfl, x2, rfl⟩⟩
  | stop s rb hs htr =>
    cases rb with
    | err o t => exact ⟨s, t, rfl, rfl, Or.inr ⟨rfl, hs, TrLe.prefix htr⟩⟩
    | ok c t => exact ⟨s, t, rfl, by simp only [finishRun]; split <;> rfl, Or.inr ⟨rfl, hs, TrLe.prefix htr⟩⟩

/-- what the stopped run did is, in particular, an initial part of EVERYTHING the uninterrupted run does
(its own summary included) -/
theorem stopped_run_effects_in_full_run (k : Nat) (fuel : Nat) (b : St F) (hb : b.stopAt = none)
    (hs : (runProgram ops ext prog fuel { b with stopAt := some k }).1 = .err .stopped)
    (hne : (runProgram ops ext prog fuel b).1 ≠ .err .stopped) :
    ∃ a', (runProgram ops ext prog fuel { b with stopAt := some k }).2 = testReport a' ∧
      effects a' <+: effects (runProgram ops ext prog fuel b).2 := by
  obtain ⟨a', b', h1, h2, h3⟩ := stopped_run_effects_are_a_prefix ops ext prog k fuel b hb
  refine ⟨a', h1, ?_⟩
  rcases h3 with ⟨he, _⟩ | ⟨_, _, hp⟩
  · rw [hs] at he; exact absurd he.symm hne
  · rw [h2]
    refine List.IsPrefix.trans hp ?_
    rcases only_summary_follows b' with h | ⟨s, h⟩
    · exact ⟨[], by simp [effects, h]⟩
    · exact ⟨[.print s], by simp [effects, h]⟩

/-- the same for an event handler that is stopped while it runs: what it did is an initial part of what
the uninterrupted handler run does -/
theorem stopped_handler_effects_are_a_prefix (k : Nat) (fuel : Nat) (name : Str) (payload : List (Val F)) (b : St F)
    (hb : b.stopAt = none) :
    ((handleEvent ops ext prog fuel name payload { b with stopAt := some k }).1 = (handleEvent ops ext prog fuel name payload b).1 ∧
      ∃ x, (handleEvent ops ext prog fuel name payload { b with stopAt := some k }).2
        = ov (some k) x (handleEvent ops ext prog fuel name payload b).2) ∨
    ((handleEvent ops ext prog fuel name payload { b with stopAt := some k }).1 = .err .stopped ∧
      (handleEvent ops ext prog fuel name payload { b with stopAt := some k }).2.stopped = true ∧
      effects (handleEvent ops ext prog fuel name payload { b with stopAt := some k }).2
        <+: effects (handleEvent ops ext prog fuel name payload b).2) := by
  rw [← ov_false (some k) b, handleEvent_eq, handleEvent_eq]
  split
  · exact Or.inl ⟨rfl, false, rfl⟩
  · split
    · exact Or.inl ⟨rfl, false, rfl⟩
    · split
      · have hr := (callUser_walk (walk ops ext prog (some k) fuel) (C15.asProc ‹_› name) payload b false).rel hb
        generalize callUser ops ext prog fuel _ payload (ov (some k) false b) = ra at hr ⊢
        generalize callUser ops ext prog fuel _ payload b = rb at hr ⊢
        cases hr with
        | ok v x2 a t ha ht => subst ha; exact Or.inl ⟨rfl, x2, rfl⟩
        | err o x2 a t ha ht => subst ha; exact Or.inl ⟨rfl, x2, rfl⟩
        | stop s rb hs htr => cases rb <;> exact Or.inr ⟨rfl, hs, TrLe.prefix htr⟩
      · exact Or.inl ⟨rfl, false, rfl⟩

/-! Non-vacuity of the second alternative: two `cls` calls, the flag raised during the second yield — the
stopped run has done one of the two effects of the uninterrupted run -/
def twoCls : Program Int := ⟨[], [], [.callS (.call (lit "cls") []), .callS (.call (lit "cls") [])]⟩
example : (runProgram intOps ⟨fun _ _ => none⟩ twoCls 10 { stopAt := some 2 }).1 = .err .stopped ∧
    (runProgram intOps ⟨fun _ _ => none⟩ twoCls 10 { stopAt := some 2 }).2.trace.length = 1 ∧
    (runProgram intOps ⟨fun _ _ => none⟩ twoCls 10 {}).1 = .ok ∧
    (runProgram intOps ⟨fun _ _ => none⟩ twoCls 10 {}).2.trace.length = 2 := by decide

/-! Non-vacuity: states with and without the flag -/
example : ∃ st : St Int, st.stopped = true ∧ tick st = none := ⟨{ stopped := true }, rfl, rfl⟩
example : ∃ st st' : St Int, st.stopAt = some 1 ∧ tick st = some st' ∧ st'.stopped = true :=
  ⟨{ stopAt := some 1 }, _, rfl, rfl, rfl⟩

end EvyV.C14
