import EvyV.Lemmas.Interp
import EvyV.Props.TwoRun
/-!
C15 — events run their handlers in order, isolated, on shared globals: a handler run is the call of the procedure
with the same parameters and body.
-/
namespace EvyV.C15
variable {F : Type} (ops : NumOps F) (ext : Ext F) (prog : Program F)

/-- a handler runs in a fresh function scope and the caller's scopes are restored afterwards,
whatever the outcome: locals of a handler never survive the event -/
theorem locals_do_not_survive (fuel : Nat) (name : Str) (payload : List (Val F)) (st : St F) :
    (handleEvent ops ext prog fuel name payload st).2.locals = st.locals :=
  (handleEvent_frame ops ext prog fuel name payload st).1

/-- the payload is bound to the declared parameters positionally; surplus payload values are
ignored, so a handler declared without parameters ignores the whole payload -/
theorem no_params_ignores_payload (payload : List (Val F)) (st : St F) :
    bindPayload ([] : List (Str × Ty)) payload st = some st := by
  cases payload <;> rfl

/-- `_` parameters consume their payload position but bind nothing -/
theorem underscore_binds_nothing (t : Ty) (v : Val F) (ps : List (Str × Ty)) (vs : List (Val F)) (st : St F)
    (hv : payloadOk t v = true) :
    bindPayload ((underscore, t) :: ps) (v :: vs) st = bindPayload ps vs st := by
  simp [bindPayload, hv, setVar]

/-- a named parameter is bound to the payload value at its own position -/
theorem named_param_bound (n : Str) (t : Ty) (v : Val F) (ps : List (Str × Ty)) (vs : List (Val F)) (st : St F)
    (hv : payloadOk t v = true) :
    bindPayload ((n, t) :: ps) (v :: vs) st = bindPayload ps vs (setVar st n v) := by
  simp [bindPayload, hv]

/-- handlers read and update the same globals as the main program: the body is executed on the
state whose `global` is the caller's (only `locals` is replaced) -/
theorem globals_shared (fuel : Nat) (h : Handler F) (payload : List (Val F)) (st st2 : St F)
    (hf : prog.handlers.find? (fun x => x.name == h.name) = some h)
    (hl : ¬ payload.length < h.params.length)
    (hb : bindPayload h.params payload { st with locals := [[]] } = some st2) :
    handleEvent ops ext prog fuel h.name payload st =
      match execBlockNode ops ext prog fuel h.body st2 with
      | .err o st' => (.err o, { st' with locals := st.locals })
      | .ok _ st' => (.ok, { st' with locals := st.locals }) := by
  unfold handleEvent
  simp only [hf, hl, if_false, hb]
  cases execBlockNode ops ext prog fuel h.body st2 <;> rfl

/-- a payload of the wrong type is the documented conversion panic, not a crash -/
theorem bad_payload_is_panic (fuel : Nat) (h : Handler F) (payload : List (Val F)) (st : St F)
    (hf : prog.handlers.find? (fun x => x.name == h.name) = some h)
    (hl : ¬ payload.length < h.params.length)
    (hb : bindPayload h.params payload { st with locals := [[]] } = none) :
    (handleEvent ops ext prog fuel h.name payload st).1 = .err (.panic .anyConversion) := by
  unfold handleEvent
  simp [hf, hl, hb]

/-- `callTail` IS the user-function branch of the model's evalFunccall -/
theorem evalCall_is_callTail (fuel : Nat) (name : Str) (args : List (Expr F)) (st st' : St F) (vs : List (Val F))
    (fd : FuncDef F) (ha : evalList ops ext prog fuel args st = .ok vs st')
    (hb : callBuiltin ops ext name vs st' = Option.none) (hf : lookupFunc prog.funcs name = some fd)
    (hl : ¬ vs.length < fd.params.length) :
    evalCall ops ext prog (fuel + 1) name args st = callTail ops ext prog fuel fd vs st' :=
  (evalCall_user ops ext prog fuel name args st st' vs fd ha hb hf hl).trans (callUser_eq ops ext prog fuel fd vs st')

theorem bindPayload_is_bindParams : ∀ (ps : List (Str × Ty)) (vs : List (Val F)) (st st2 : St F),
    bindPayload ps vs st = some st2 → st2 = bindParams (ps.map (·.1)) vs st :=
  fun _ _ _ _ h => (bindPayload_some h).2

/-- **handler = procedure**: delivering an event whose payload has the declared types runs the handler
exactly as a call of the procedure with the same parameters and body would run with the payload as
arguments: same outcome, same final state (globals, heap, effects, yields, test counters — every field) -/
theorem handler_equals_procedure (fuel : Nat) (h : Handler F) (fname : Str) (payload : List (Val F)) (st st2 : St F)
    (hf : prog.handlers.find? (fun x => x.name == h.name) = some h)
    (hl : ¬ payload.length < h.params.length)
    (hb : bindPayload h.params payload { st with locals := [[]] } = some st2) :
    handleEvent ops ext prog fuel h.name payload st
      = asRun (callTail ops ext prog fuel (asProc h fname) payload st) := by
  rw [handleEvent_eq, hf, ← callUser_eq]
  simp only [hl, (bindPayload_some hb).1, if_false, if_true]
  rfl

/-- delivery of a sequence of events, as the platform does it: in order, until one fails -/
def deliver (fuel : Nat) : List (Str × List (Val F)) → St F → RunResult × St F
  | [], st => (.ok, st)
  | (name, payload) :: rest, st =>
    match handleEvent ops ext prog fuel name payload st with
    | (.ok, st') => deliver fuel rest st'
    | r => r

/-- the same sequence as calls of procedures: `procOf name` is the procedure standing for handler `name` -/
def callAll (fuel : Nat) (procOf : Str → FuncDef F) : List (Str × List (Val F)) → St F → RunResult × St F
  | [], st => (.ok, st)
  | (name, payload) :: rest, st =>
    match asRun (callTail ops ext prog fuel (procOf name) payload st) with
    | (.ok, st') => callAll fuel procOf rest st'
    | r => r

/-- every event of the sequence names a handler and carries a payload of its declared types
(checked in the state in which it is delivered: binding looks at the values only) -/
def Deliverable (evs : List (Str × List (Val F))) : Prop :=
  ∀ ev ∈ evs, ∃ h, prog.handlers.find? (fun x => x.name == ev.1) = some h ∧ h.name = ev.1 ∧
    ¬ ev.2.length < h.params.length ∧ ∀ st : St F, (bindPayload h.params ev.2 st).isSome

/-- **for every sequence of events** the cumulative result — outcome and whole final state — equals that
of calling the equivalent procedures in that order -/
theorem event_sequence_equals_procedure_calls (fuel : Nat) (procOf : Str → FuncDef F) (fname : Str → Str)
    (hp : ∀ name h, prog.handlers.find? (fun x => x.name == name) = some h → procOf name = asProc h (fname name)) :
    ∀ (evs : List (Str × List (Val F))) (st : St F), Deliverable prog evs →
      deliver ops ext prog fuel evs st = callAll ops ext prog fuel procOf evs st := by
  intro evs
  induction evs with
  | nil => intro st _; rfl
  | cons ev rest ih =>
    intro st hd
    obtain ⟨name, payload⟩ := ev
    obtain ⟨h, hf, rfl, hl, hb⟩ := hd (name, payload) (by simp)
    obtain ⟨st2, hst2⟩ := Option.isSome_iff_exists.mp (hb { st with locals := [[]] })
    have he := handler_equals_procedure ops ext prog fuel h (fname h.name) payload st st2 hf hl hst2
    have hrest : Deliverable prog rest := fun e he' => hd e (by simp [he'])
    simp only [deliver, callAll, he, hp h.name h hf]
    cases hq : asRun (callTail ops ext prog fuel (asProc h (fname h.name)) payload st) with
    | mk r s => cases r with
      | ok => exact ih s hrest
      | _ => rfl

/-- the hypotheses are satisfiable: a `key` handler and a `key` event with a string payload -/
example : Deliverable (F := F) ⟨[], [⟨lit "key", [(lit "k", .str)], [.noop]⟩], []⟩ [(lit "key", [.str (lit "a")])] := by
  intro ev hev
  simp only [List.mem_singleton] at hev
  subst hev
  exact ⟨⟨lit "key", [(lit "k", .str)], [.noop]⟩, by simp [lit], rfl, by simp, fun st => by simp [bindPayload, payloadOk]⟩

/-- **whole programs**: a handler run of any length gives the scope stack back exactly, and only adds to
heap, yields and trace -/
theorem handler_is_isolated (n : Nat) (name : Str) (payload : List (Val F)) (st : St F) :
    let st' := (handleEvent ops ext prog n name payload st).2
    st'.locals = st.locals ∧ st.heap.size ≤ st'.heap.size ∧ st.yields ≤ st'.yields ∧ st'.stopAt = st.stopAt ∧
    (st.stopped = true → st'.stopped = true) ∧ ∃ suf, st'.trace = suf ++ st.trace :=
  handleEvent_frame ops ext prog n name payload st

end EvyV.C15
