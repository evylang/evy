import EvyV.Model.ExprVM
import EvyV.Lemmas.Sites
/-!
C16 — compiled bytecode behaves like the tree-walking evaluator: no node kind is silently left out (regenerated
inventories), and simulation for the expression fragment (numbers, booleans, globals, unary and binary operators,
grouping).
-/
namespace EvyV.C16
open ExprVM

theorem compile_total_or_error :
    ∀ k ∈ Gen.nodeKinds, k ∈ Gen.compileCases ∨ (Gen.compileHasDefault = true ∧ Gen.compileDefaultIsError = true) := by
  -- `+kernel`: plain `decide` evaluates in the elaborator first, slowly
  decide +kernel

/-- the node kinds the model below and the harness treat as the compiler's
sub-language; a change of the compiler's case list shows here -/
theorem compile_cases_known : Gen.compileCases =
    ["ArrayLiteral", "AssignmentStmt", "BinaryExpression", "BlockStatement", "BoolLiteral", "BreakStmt",
     "EmptyStmt", "ForStmt", "GroupExpression", "IfStmt", "IndexExpression", "InferredDeclStmt", "MapLiteral",
     "NumLiteral", "Program", "SliceExpression", "StringLiteral", "UnaryExpression", "Var", "WhileStmt"] := rfl

/-- the evaluator has a case for every node kind except the two helper nodes it
handles inside their parents, and its fall-through is an error -/
theorem eval_total_or_error :
    (∀ k ∈ Gen.nodeKinds, k ∈ Gen.evalCases ∨ k = "ConditionalBlock" ∨ k = "StepRange") ∧
    Gen.evalFallThroughIsError = true := evalCases_cover

variable {F : Type} (ops : NumOps F)

theorem vmExec_append (g : List (V F)) (a b : List (I F)) (st : List (V F)) :
    vmExec ops g (a ++ b) st =
      match vmExec ops g a st with
      | .ok st' => vmExec ops g b st'
      | .error e => .error e := by
  induction a generalizing st with
  | nil => simp [vmExec]
  | cons i rest ih =>
    simp only [List.cons_append, vmExec]
    cases h : vmStep ops g st i with
    | ok st' => simp [ih]
    | error e => simp

/-- the run gives `st'`, or stops with the division-by-zero error that only the VM has -/
def OkDiv (r : Except VMErr (List (V F))) (st' : List (V F)) : Prop := r = .ok st' ∨ r = .error .divZero

theorem OkDiv.append {g : List (V F)} {a b : List (I F)} {st st1 st2 : List (V F)}
    (ha : OkDiv (vmExec ops g a st) st1) (hb : OkDiv (vmExec ops g b st1) st2) :
    OkDiv (vmExec ops g (a ++ b) st) st2 := by
  rw [vmExec_append]
  rcases ha with ha | ha <;> rw [ha]
  · exact hb
  · exact Or.inr rfl

theorem vmExec_single (g : List (V F)) (i : I F) (st : List (V F)) : vmExec ops g [i] st = vmStep ops g st i := by
  simp only [vmExec]; split <;> simp_all

theorem vmStep_opIns (g : List (V F)) (op : BinOp) (l r : E F) (a b v : V F) (st : List (V F))
    (hl : evalE ops g l = some a) (hr : evalE ops g r = some b) (h : evalE ops g (.bin op l r) = some v) :
    OkDiv (vmExec ops g [opIns op] (b :: a :: st)) (v :: st) := by
  rw [vmExec_single]
  simp only [evalE, hl, hr] at h
  -- where the evaluator has no rule `h` is `none = some v`; otherwise `h` gives `v` and the instruction computes it
  cases op <;> cases a <;> cases b <;> simp [veq] at h <;> subst h <;> simp [OkDiv, vmStep, opIns, veq]

/-- **Simulation**: if the evaluator gives `v`, the compiled code pushes `v`
(on any stack), unless the VM stops with its division-by-zero error. -/
theorem compile_expr_correct (g : List (V F)) (e : E F) (v : V F) (st : List (V F))
    (h : evalE ops g e = some v) :
    vmExec ops g (compileE e) st = .ok (v :: st) ∨
    vmExec ops g (compileE e) st = .error .divZero := by
  show OkDiv _ _
  induction e generalizing v st with
  | num n => cases h; exact Or.inl rfl
  | bool b => cases h; cases b <;> exact Or.inl rfl
  | glob i => exact Or.inl (by simp only [evalE] at h; simp [compileE, vmExec, vmStep, h])
  | group e ih => exact ih v st h
  | neg e ih | not e ih =>
    simp only [evalE] at h
    split at h <;> cases h
    exact (ih _ st ‹_›).append ops (Or.inl rfl)
  | bin op l r ihl ihr =>
    rcases hl : evalE ops g l with _ | a
    · simp [evalE, hl] at h
    rcases hr : evalE ops g r with _ | b
    · simp [evalE, hl, hr] at h
    exact ((ihl a st hl).append ops (ihr b _ hr)).append ops (vmStep_opIns ops g op l r a b v st hl hr h)

/-- an expression the evaluator gives a value never makes the VM fail with a type error or a
stack underflow -/
theorem no_type_error (g : List (V F)) (e : E F) (v : V F) (st : List (V F))
    (h : evalE ops g e = some v) :
    vmExec ops g (compileE e) st ≠ .error .typeOrUnderflow := by
  rcases compile_expr_correct ops g e v st h with h1 | h1 <;> simp [h1]

example : evalE intOps [] (.bin .lt (.bin .mul (.group (.bin .add (.num 1) (.num 2))) (.num 3)) (.num 10))
    = some (.bool true) := by rfl
example : vmExec intOps [] (compileE (.bin .lt (.bin .mul (.group (.bin .add (.num (1:Int)) (.num 2))) (.num 3)) (.num 10))) []
    = .ok [.bool true] := by rfl
/-- left operand first: 7 - 2 = 5, not -5 -/
example : vmExec intOps [] (compileE (.bin .sub (.num (7:Int)) (.num 2))) [] = .ok [.num 5] := by rfl

end EvyV.C16
