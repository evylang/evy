import EvyV.Model.StmtVM
import EvyV.Props.C16
/-!
C16, statements: compiled code behaves like the tree-walking evaluator for the statement fragment of
Model/StmtVM.lean (assignment to globals, if / else-if / else, while, break; num and bool values), by induction
over the evaluator's step budget (`sim`).

A run of the VM is described by fuel-shift equations on `run` (`Reaches`), composed with `Reaches.trans`; what
stands at `pc + k` is read off a placement hypothesis by `simp only [codeAt_append, codeAt]`.
-/
namespace EvyV.StmtVM
open ExprVM

variable {F : Type} (ops : NumOps F)

mutual
theorem len_compS (brkT : Nat) : ∀ (base : Nat) (s : S F), (compS brkT base s).length = sizeS s
  | _, .assign i e => by simp [compS, sizeS]
  | _, .brk => by simp [compS, sizeS]
  | base, .whileS c body => by
    simp only [compS, sizeS, List.length_append, List.length_cons, List.length_nil, len_compB]
  | base, .ifS conds els => by
    simp only [compS, sizeS, List.length_append, len_compC, len_compB]
theorem len_compB (brkT : Nat) : ∀ (base : Nat) (b : List (S F)), (compB brkT base b).length = sizeB b
  | _, [] => by simp [compB, sizeB]
  | base, s :: r => by simp only [compB, sizeB, List.length_append, len_compS, len_compB]
theorem len_compC (brkT endA : Nat) : ∀ (base : Nat) (cs : List (E F × List (S F))), (compC brkT endA base cs).length = sizeC cs
  | _, [] => by simp [compC, sizeC]
  | base, (c, b) :: r => by
    simp only [compC, sizeC, List.length_append, List.length_cons, List.length_nil, len_compB, len_compC]
end

/-- `xs` sits in `code` at address `p` -/
def codeAt (code : List (J F)) : Nat → List (J F) → Prop
  | _, [] => True
  | p, x :: xs => code[p]? = some x ∧ codeAt code (p + 1) xs

theorem codeAt_append (code : List (J F)) : ∀ (xs ys : List (J F)) (p : Nat),
    codeAt code p (xs ++ ys) ↔ codeAt code p xs ∧ codeAt code (p + xs.length) ys
  | [], ys, p => by simp [codeAt]
  | x :: xs, ys, p => by
    simp only [List.cons_append, codeAt, codeAt_append code xs ys, List.length_cons, and_assoc,
      Nat.add_assoc, Nat.add_comm 1]

theorem codeAt_self (pre : List (J F)) : ∀ xs : List (J F), codeAt (pre ++ xs) pre.length xs
  | [] => trivial
  | x :: xs => ⟨by simp, by simpa using codeAt_self (pre ++ [x]) xs⟩

theorem run_succ {code : List (J F)} {s : VMState F} {j : J F} (h : code[s.pc]? = some j) (n : Nat) :
    run ops code (n + 1) s =
      match step ops code s with
      | .ok s' => run ops code n s'
      | .error e => .error e := by
  have : ¬ s.pc ≥ code.length := Nat.not_le.2 (List.getElem?_eq_some_iff.1 h).1
  simp only [run, this, if_false]
  rfl

/-- `k` more units of fuel for `s` are worth what is left for `t`, unless the VM stops with divZero on the way -/
def Reaches (code : List (J F)) (s t : VMState F) : Prop :=
  ∃ k, ∀ m, run ops code (k + m) s = run ops code m t ∨ run ops code (k + m) s = .error .divZero

theorem Reaches.refl (code : List (J F)) (s : VMState F) : Reaches ops code s s := ⟨0, fun m => by simp⟩

theorem Reaches.trans {code : List (J F)} {s t u : VMState F} (h1 : Reaches ops code s t) (h2 : Reaches ops code t u) :
    Reaches ops code s u := by
  obtain ⟨k1, h1⟩ := h1
  obtain ⟨k2, h2⟩ := h2
  refine ⟨k1 + k2, fun m => ?_⟩
  rw [Nat.add_assoc]
  rcases h1 (k2 + m) with e | e
  · rw [e]; exact h2 m
  · exact Or.inr e

theorem Reaches.step {code : List (J F)} {s t : VMState F} {j : J F} (hj : code[s.pc]? = some j)
    (h : step ops code s = .ok t) : Reaches ops code s t :=
  ⟨1, fun m => by rw [Nat.add_comm, run_succ ops hj, h]; exact Or.inl rfl⟩

theorem Reaches.jump {code : List (J F)} {p t : Nat} (h : code[p]? = some (.jump t)) (st g : List (V F)) :
    Reaches ops code ⟨p, st, g⟩ ⟨t, st, g⟩ := Reaches.step ops h (by simp [StmtVM.step, h])

theorem Reaches.jof {code : List (J F)} {p t : Nat} (h : code[p]? = some (.jof t)) (b : Bool) (st g : List (V F)) :
    Reaches ops code ⟨p, .bool b :: st, g⟩ ⟨if b then p + 1 else t, st, g⟩ := Reaches.step ops h (by simp [StmtVM.step, h])

theorem Reaches.setGlobal {code : List (J F)} {p i : Nat} (h : code[p]? = some (.setGlobal i)) (v : V F) (st : List (V F))
    {g : List (V F)} (hi : i < g.length) :
    Reaches ops code ⟨p, v :: st, g⟩ ⟨p + 1, st, g.set i v⟩ := Reaches.step ops h (by simp [StmtVM.step, h, hi])

theorem run_ops (code : List (J F)) (g : List (V F)) : ∀ (is : List (I F)) (p : Nat) (st : List (V F)) (m : Nat),
    codeAt code p (is.map J.op) →
    run ops code (is.length + m) ⟨p, st, g⟩ =
      match vmExec ops g is st with
      | .ok st' => run ops code m ⟨p + is.length, st', g⟩
      | .error e => .error e
  | [], p, st, m, _ => by simp [vmExec]
  | i :: is, p, st, m, hc => by
    have e : (i :: is).length + m = is.length + m + 1 := by simp only [List.length_cons]; omega
    rw [e, run_succ ops (s := ⟨p, st, g⟩) hc.1]
    simp only [StmtVM.step, hc.1, vmExec]
    cases vmStep ops g st i with
    | error e => rfl
    | ok st1 => simpa [Nat.add_assoc, Nat.add_comm 1] using run_ops code g is (p + 1) st1 m hc.2

theorem expr_run (code : List (J F)) (g : List (V F)) (e : E F) (v : V F) (p : Nat) (st : List (V F))
    (hc : codeAt code p (ce e)) (h : evalE ops g e = some v) :
    Reaches ops code ⟨p, st, g⟩ ⟨p + (ce e).length, v :: st, g⟩ := by
  refine ⟨(compileE e).length, fun m => ?_⟩
  rw [run_ops ops code g (compileE e) p st m hc]
  rcases C16.compile_expr_correct ops g e v st h with h1 | h1 <;> simp [h1, ce]

/-- where the VM is after code whose evaluation completed with `c`: behind it, or at the break target -/
def target (c : Compl) (fall brkT : Nat) : Nat := if c = .normal then fall else brkT

@[simp] theorem target_normal (f b : Nat) : target .normal f b = f := rfl
@[simp] theorem target_brk (f b : Nat) : target .brk f b = b := rfl

/-- the claim of `sim` for blocks at budget `n`; `guarded` takes it as its hypothesis -/
abbrev SimB (code : List (J F)) (n : Nat) : Prop :=
  ∀ {g g' : List (V F)} {b : List (S F)} {c : Compl} {brkT base : Nat} (st : List (V F)),
    execB ops n g b = some (c, g') → codeAt code base (compB brkT base b) →
    Reaches ops code ⟨base, st, g⟩ ⟨target c (base + sizeB b) brkT, st, g'⟩

/-- condition, `jof tF`, block, `jump tJ`: what `while` and every branch of `if` compile to -/
theorem guarded {code : List (J F)} {n : Nat} (ihB : SimB ops code n) {cnd : E F} {b : List (S F)} {brk base tF tJ : Nat}
    (st g : List (V F))
    (hc : codeAt code base (ce cnd ++ [.jof tF] ++ compB brk (base + (ce cnd).length + 1) b ++ [.jump tJ])) :
    (evalE ops g cnd = some (.bool false) → Reaches ops code ⟨base, st, g⟩ ⟨tF, st, g⟩) ∧
    (∀ c g', evalE ops g cnd = some (.bool true) → execB ops n g b = some (c, g') →
      Reaches ops code ⟨base, st, g⟩ ⟨target c tJ brk, st, g'⟩) := by
  simp only [codeAt_append, codeAt, and_true, List.length_append, List.length_cons, List.length_nil, len_compB,
    Nat.add_assoc, Nat.zero_add] at hc
  obtain ⟨⟨⟨hcond, hjof⟩, hblock⟩, hjmp⟩ := hc
  have h1 := fun bv hv => (expr_run ops code g cnd (.bool bv) base st hcond hv).trans ops (Reaches.jof ops hjof bv st g)
  refine ⟨fun hv => by simpa using h1 _ hv, fun c g' hv hb => ?_⟩
  have h3 := (h1 _ hv).trans ops (by simpa [Nat.add_assoc] using ihB st hb hblock)
  cases c with
  | brk => exact h3
  | normal => exact h3.trans ops (by simpa [Nat.add_assoc] using Reaches.jump ops hjmp st g')

theorem sim (code : List (J F)) (n : Nat) :
    (∀ {g g' : List (V F)} {s : S F} {c : Compl} {brkT base : Nat} (st : List (V F)),
      execS ops n g s = some (c, g') → codeAt code base (compS brkT base s) →
      Reaches ops code ⟨base, st, g⟩ ⟨target c (base + sizeS s) brkT, st, g'⟩) ∧
    SimB ops code n ∧
    (∀ {g g' : List (V F)} {cs : List (E F × List (S F))} {els : List (S F)} {c : Compl} {brkT base endA : Nat} (st : List (V F)),
      execC ops n g cs els = some (c, g') → endA = base + sizeC cs + sizeB els →
      codeAt code base (compC brkT endA base cs ++ compB brkT (base + sizeC cs) els) →
      Reaches ops code ⟨base, st, g⟩ ⟨target c endA brkT, st, g'⟩) := by
  induction n with
  | zero => exact ⟨fun _ h => by simp [execS] at h, fun _ h => by simp [execB] at h, fun _ h => by simp [execC] at h⟩
  | succ n ih =>
    obtain ⟨ihS, ihB, ihC⟩ := ih
    refine ⟨?_, ?_, ?_⟩
    · intro g g' s c brkT base st h hc
      cases s with
      | assign i e =>
        simp only [compS, codeAt_append, codeAt, and_true] at hc
        simp only [execS] at h
        cases he : evalE ops g e with
        | none => simp [he] at h
        | some v =>
          simp only [he] at h
          split at h
          · rename_i hi
            cases h
            simpa [sizeS, Nat.add_assoc] using
              (expr_run ops code g e v base st hc.1 he).trans ops (Reaches.setGlobal ops hc.2 v st hi)
          · cases h
      | brk =>
        cases h
        simpa using Reaches.jump ops (t := brkT) hc.1 st g
      | ifS conds els =>
        simpa [sizeS, Nat.add_assoc] using
          ihC st (by simpa only [execS] using h) rfl
            (by simpa only [compS] using hc)
      | whileS cnd body =>
        obtain ⟨hF, hT⟩ := guarded ops ihB st g (by simpa only [compS] using hc)
        simp only [execS] at h
        split at h
        · rename_i hv
          rcases hb : execB ops n g body with _ | ⟨_ | _, g1⟩ <;> simp only [hb] at h
          · cases h
          · exact (hT _ _ hv hb).trans ops (ihS st h hc)
          · cases h; simpa [sizeS, Nat.add_assoc] using hT _ _ hv hb
        · rename_i hv
          cases h
          simpa [sizeS, Nat.add_assoc] using hF hv
        · cases h
    · intro g g' b c brkT base st h hc
      cases b with
      | nil =>
        cases h
        simpa [sizeB] using Reaches.refl ops code ⟨base, st, g⟩
      | cons s r =>
        simp only [compB, codeAt_append, len_compS] at hc
        simp only [execB] at h
        rcases hs : execS ops n g s with _ | ⟨_ | _, g1⟩ <;> simp only [hs] at h
        · cases h
        · simpa [sizeB, Nat.add_assoc] using Reaches.trans ops (by simpa using ihS st hs hc.1) (ihB st h hc.2)
        · cases h; simpa using ihS st hs hc.1
    · intro g g' cs els c brkT base endA st h hend hc
      cases cs with
      | nil =>
        simp only [compC, List.nil_append, sizeC, Nat.add_zero] at hc
        simpa [hend, sizeC] using ihB st (by simpa only [execC] using h) hc
      | cons cb r =>
        obtain ⟨cnd, b⟩ := cb
        simp only [compC, sizeC, List.append_assoc] at hc
        rw [← List.append_assoc, ← List.append_assoc, ← List.append_assoc, codeAt_append] at hc
        obtain ⟨hF, hT⟩ := guarded ops ihB st g hc.1
        simp only [execC] at h
        split at h
        · exact hT _ _ ‹_› h
        · refine (hF ‹_›).trans ops (ihC st h ?_ ?_)
          · simp only [hend, sizeC]; omega
          · simpa only [List.length_append, List.length_cons, List.length_nil, len_compB, Nat.add_assoc, Nat.zero_add] using hc.2
        · cases h

/-- **compiled statements behave like the evaluator**: if the evaluator completes the program with globals `g'`,
the VM on the compiled code, given enough steps, halts with `g'` or stops with its division-by-zero error -/
theorem compile_correct (prog : List (S F)) (n : Nat) (g g' : List (V F))
    (h : execB ops n g prog = some (.normal, g')) :
    ∃ k, ∀ k', k ≤ k' →
      run ops (compile prog) k' ⟨0, [], g⟩ = .halted g' ∨ run ops (compile prog) k' ⟨0, [], g⟩ = .error .divZero := by
  obtain ⟨k, hk⟩ := (sim ops (compile prog) n).2.1 (brkT := 0) [] h (codeAt_self [] _)
  refine ⟨k + 1, fun k' hk' => ?_⟩
  obtain ⟨m, rfl⟩ : ∃ m, k' = k + (m + 1) := ⟨k' - k - 1, by omega⟩
  simpa [run, compile, len_compB] using hk (m + 1)

/-- in particular the VM never stops with a type error or a stack underflow on such a program -/
theorem compiled_never_type_error (prog : List (S F)) (n : Nat) (g g' : List (V F))
    (h : execB ops n g prog = some (.normal, g')) :
    ∃ k, ∀ k', k ≤ k' → run ops (compile prog) k' ⟨0, [], g⟩ ≠ .error .typeOrUnderflow := by
  obtain ⟨k, hk⟩ := compile_correct ops prog n g g' h
  exact ⟨k, fun k' hk' => by rcases hk k' hk' with h1 | h1 <;> simp [h1]⟩

/-! ### non-vacuity: `i = 0; s = 0; while i < 5 { if i == 3 { break } else { s = s + i }; i = i + 1 }` -/

def exProg : List (S Int) :=
  [.assign 0 (.num 0), .assign 1 (.num 0),
   .whileS (.bin .lt (.glob 0) (.num 5))
     [.ifS [(.bin .eq (.glob 0) (.num 3), [.brk])] [.assign 1 (.bin .add (.glob 1) (.glob 0))],
      .assign 0 (.bin .add (.glob 0) (.num 1))]]

example : execB intOps 40 [.num 9, .num 9] exProg = some (.normal, [.num 3, .num 3]) := by rfl
example : run intOps (compile exProg) 200 ⟨0, [], [.num 9, .num 9]⟩ = .halted [.num 3, .num 3] := by rfl

end EvyV.StmtVM
