import EvyV.Model.Bytecode
/-!
C17 — emitted bytecode is well formed and the VM's operand stack is safe.

`BC.verify code H` checks a height certificate `H` locally at every offset. The theorems say what a successful
check guarantees for EVERY execution path of the abstract stack machine (`BC.Reach`), loops included.
The harness computes `H` and runs `verify` in Lean on the bytes the real compiler emitted (translation validation).
-/
namespace EvyV.C17
open EvyV.BC

/-- The opcode table of the model is the table of code.go (regenerated). -/
theorem opcodes_covered : Gen.opcodes = BC.expectedTable := rfl

theorem succs_lt (code : Code) (ip h : Nat) (l : List (Nat × Nat)) (hs : succs code ip h = some l) :
    ip < code.size := by
  unfold succs decodeAt at hs
  cases hb : code[ip]? with
  | none => simp [hb] at hs
  | some b => exact (Array.getElem?_eq_some_iff.1 hb).1

theorem verify_at (code : Code) (H : Nat → Option Nat) (hv : verify code H = true) {ip h : Nat}
    (hH : H ip = some h) (hip : ip ≤ code.size) :
    (ip = code.size ∧ h = 0) ∨
    (ip < code.size ∧ ∃ l, succs code ip h = some l ∧ ∀ p ∈ l, H p.1 = some p.2 ∧ p.1 ≤ code.size) := by
  have hok : okAt code H ip = true := by
    simp only [verify, Bool.and_eq_true, List.all_eq_true, List.mem_range] at hv
    exact hv.1.2 ip (by omega)
  simp only [okAt, hH] at hok
  split at hok
  · exact Or.inl ⟨‹_›, by simpa using hok⟩
  · split at hok
    · cases hok
    · refine Or.inr ⟨by omega, ?_⟩
      split at hok
      · cases hok
      · exact ⟨_, ‹_›, by simpa using hok⟩

/-- **Soundness of the verifier**: every state the abstract machine can reach
carries exactly the certified height, and stays inside the program. -/
theorem verify_sound (code : Code) (H : Nat → Option Nat) (hv : verify code H = true) :
    ∀ s, Reach code s → H s.1 = some s.2 ∧ s.1 ≤ code.size := by
  intro s hr
  induction hr with
  | start =>
    simp only [verify, Bool.and_eq_true, beq_iff_eq] at hv
    exact ⟨hv.1.1, Nat.zero_le _⟩
  | @step s s' _ hstep ih =>
    obtain ⟨l, hl, hmem⟩ := hstep
    rcases verify_at code H hv ih.1 ih.2 with ⟨he, _⟩ | ⟨_, l', hl', hall⟩
    · exact absurd (succs_lt code s.1 s.2 l hl) (by omega)
    · rw [hl] at hl'; cases hl'; exact hall s' hmem

theorem same_height_on_all_paths (code : Code) (H : Nat → Option Nat) (hv : verify code H = true)
    (ip h1 h2 : Nat) (r1 : Reach code (ip, h1)) (r2 : Reach code (ip, h2)) : h1 = h2 :=
  Option.some.inj ((verify_sound code H hv _ r1).1.symm.trans (verify_sound code H hv _ r2).1)

/-- **No underflow, no undecodable byte, no stray jump**: from every reachable
state inside the program the machine can take its step. -/
theorem never_stuck (code : Code) (H : Nat → Option Nat) (hv : verify code H = true)
    (ip h : Nat) (hr : Reach code (ip, h)) (hlt : ip < code.size) :
    ∃ l, succs code ip h = some l := by
  have hs := verify_sound code H hv _ hr
  rcases verify_at code H hv hs.1 hs.2 with ⟨he, _⟩ | ⟨_, l, hl, _⟩
  · exact absurd he (Nat.ne_of_lt hlt)
  · exact ⟨l, hl⟩

/-- **Empty at exit**: when control reaches the end of the program the operand
stack is back at LocalCount. -/
theorem empty_at_exit (code : Code) (H : Nat → Option Nat) (hv : verify code H = true)
    (h : Nat) (hr : Reach code (code.size, h)) : h = 0 := by
  have hs := verify_sound code H hv _ hr
  rcases verify_at code H hv hs.1 hs.2 with ⟨_, h0⟩ | ⟨hlt, _⟩
  · exact h0
  · exact absurd hlt (Nat.lt_irrefl _)

/-- a step that the checker admits never needs more operands than are there -/
theorem step_has_operands (code : Code) (ip h : Nat) (l : List (Nat × Nat)) (i : Ins) (next : Nat)
    (hd : decodeAt code ip = some (i, next)) (hs : succs code ip h = some l)
    (hop : i.op ≠ .jump ∧ i.op ≠ .jumpOnFalse ∧ i.op ≠ .stepRange ∧ i.op ≠ .iterRange) :
    (effect i).1 ≤ h := by
  unfold succs at hs
  simp only [hd] at hs
  obtain ⟨h1, h2, h3, h4⟩ := hop
  -- the four special opcodes are excluded; what is left of `succs` is one test
  split at hs
  · exact absurd ‹_› h1
  · exact absurd ‹_› h2
  · exact absurd ‹_› h3
  · exact absurd ‹_› h4
  · split at hs
    · cases hs
    · exact Nat.le_of_not_lt ‹_›

/-! Non-vacuity: `x := 1` then `x = x + 2` compiled by hand:
 OpConstant 0; OpSetGlobal 0; OpGetGlobal 0; OpConstant 1; OpAdd; OpSetGlobal 0 -/
def demoCode : Code := #[0,0,0, 2,0,0, 1,0,0, 0,0,1, 6, 2,0,0]
def demoH : Nat → Option Nat := fun ip =>
  if ip = 0 then some 0 else if ip = 3 then some 1 else if ip = 6 then some 0 else if ip = 9 then some 1
  else if ip = 12 then some 2 else if ip = 13 then some 1 else if ip = 16 then some 0 else none
example : verify demoCode demoH = true := by decide
/-- an unbalanced program is refused: OpConstant 0; OpAdd -/
example : ∀ H, verify #[0,0,0, 6] H = false := by
  intro H
  rw [Bool.eq_false_iff]
  intro hv
  have h0 : H 0 = some 0 := by
    simp only [verify, Bool.and_eq_true, beq_iff_eq] at hv; exact hv.1.1
  -- the certificate gives OpAdd at offset 3 the height 1, with which it cannot step
  rcases verify_at _ H hv h0 (by decide) with ⟨he, _⟩ | ⟨_, l, hl, hall⟩
  · exact absurd he (by decide)
  · obtain rfl : [(3, 1)] = l := Option.some.inj hl
    obtain ⟨h3, _⟩ := hall (3, 1) (List.mem_singleton.2 rfl)
    rcases verify_at _ H hv h3 (by decide) with ⟨he, _⟩ | ⟨_, l', hl', _⟩
    · exact absurd he (by decide)
    · cases hl'

end EvyV.C17
