import EvyV.Model.SymTab
/-!
C17 (slot allocation) — two variables that are alive at the same time never
share a storage slot, and `LocalCount` bounds every local slot handed out;
for ALL sequences of Push / Pop / Define / Resolve.
-/
namespace EvyV.C17
open EvyV.SymTab

/-- symbols carry `glob` and sit in distinct slots `base ≤ · < index`; locals of closed descendants lie below
`nestedMax` -/
def Wf (glob : Bool) (t : Tab) : Prop :=
  t.base ≤ t.index ∧
  (∀ s ∈ t.store, s.isGlobal = glob ∧ t.base ≤ s.index ∧ s.index < t.index) ∧
  (t.store.map (·.index)).Nodup ∧
  (∀ s ∈ t.popped, s.isGlobal = false ∧ s.index < t.nestedMax)

/-- a local table starts at its parent's `index`; the first local level at 0, because globals have an index space of
their own -/
def Inv : Chain → Prop
  | [] => False
  | [g] => Wf true g
  | t :: o :: rest => Wf false t ∧ t.base = (if rest = [] then 0 else o.index) ∧ Inv (o :: rest)

theorem inv_push (c : Chain) (h : Inv c) : Inv (push c) := by
  match c, h with
  | [g], h => exact ⟨by simp [Wf], by simp, h⟩
  | t :: o :: rest, h => exact ⟨by simp [Wf], by simp, h⟩

theorem Wf.pop {b : Bool} {t o : Tab} (ht : Wf false t) (ho : Wf b o) :
    Wf b { o with nestedMax := max o.nestedMax (t.nestedMax + t.index),
                  popped := t.store ++ t.popped ++ o.popped } := by
  obtain ⟨_, h2, _, h4⟩ := ht
  obtain ⟨o1, o2, o3, o4⟩ := ho
  refine ⟨o1, o2, o3, fun s hs => ?_⟩
  simp only [List.mem_append] at hs
  rcases hs with (hs | hs) | hs
  · have := h2 s hs; exact ⟨this.1, by simp only; omega⟩
  · have := h4 s hs; exact ⟨this.1, by simp only; omega⟩
  · have := o4 s hs; exact ⟨this.1, by simp only; omega⟩

theorem inv_pop (c : Chain) (h : Inv c) : Inv (pop c) := by
  match c, h with
  | [g], h => exact h
  | [t, g], h => exact h.1.pop h.2.2
  | t :: o :: o2 :: rest, ⟨ht, _, ho, hb, hrest⟩ => exact ⟨ht.pop ho, hb, hrest⟩

theorem lookup_mem (store : List Sym) (n : String) (s : Sym) (h : lookup store n = some s) : s ∈ store :=
  List.mem_of_find?_eq_some h

theorem Wf.define {b : Bool} {t : Tab} (h : Wf b t) (n : String) :
    Wf b { t with store := ⟨n, b, t.index⟩ :: t.store, index := t.index + 1 } := by
  obtain ⟨t1, t2, t3, t4⟩ := h
  refine ⟨Nat.le_succ_of_le t1, ?_, ?_, t4⟩
  · intro s hs
    rcases List.mem_cons.1 hs with rfl | hs
    · exact ⟨rfl, t1, Nat.lt_succ_self _⟩
    · have := t2 s hs; exact ⟨this.1, this.2.1, Nat.lt_succ_of_lt this.2.2⟩
  · refine List.nodup_cons.2 ⟨fun hm => ?_, t3⟩
    obtain ⟨s, hs, he⟩ := List.mem_map.1 hm
    have := (t2 s hs).2.2
    simp only at he; omega

theorem inv_define (c : Chain) (n : String) (h : Inv c) : Inv (define c n).1 := by
  match c, h with
  | [g], h =>
    simp only [define]
    split
    · exact h
    · exact h.define n
  | t :: o :: rest, h =>
    simp only [define]
    split
    · exact h
    · exact ⟨h.1.define n, h.2⟩

theorem inv_step (c : Chain) (op : Op) (h : Inv c) : Inv (step c op) := by
  cases op with
  | push => exact inv_push c h
  | pop => exact inv_pop c h
  | define n => exact inv_define c n h
  | resolve n => exact h

theorem inv_run (ops : List Op) : Inv (run ops) :=
  List.foldlRecOn ops step (by simp [newGlobal, Inv, Wf]) fun c h op _ => inv_step c op h

/-- the local symbols that can be resolved from the current scope -/
def visibleLocals (c : Chain) : List Sym := (c.dropLast).flatMap (·.store)

theorem outer_below_base (t o : Tab) (rest : Chain) (h : Inv (t :: o :: rest)) :
    ∀ s ∈ visibleLocals (o :: rest), s.index < t.base := by
  induction rest generalizing t o with
  | nil => intro s hs; simp [visibleLocals] at hs
  | cons o2 rest ih =>
    intro s hs
    obtain ⟨_, hb, ho, hb2, hrest⟩ := h
    simp only [List.cons_ne_nil, if_false] at hb
    simp only [visibleLocals, List.dropLast_cons_cons, List.flatMap_cons, List.mem_append] at hs
    rcases hs with hs | hs
    · have := (ho.2.1 s hs).2.2; omega
    · have := ih o o2 ⟨ho, hb2, hrest⟩ s (by simpa [visibleLocals] using hs)
      have := ho.1; omega

/-- **No slot sharing**: in every reachable state the local variables that are
simultaneously resolvable occupy pairwise distinct slots. -/
theorem visible_locals_distinct (c : Chain) (h : Inv c) :
    ((visibleLocals c).map (·.index)).Nodup := by
  induction c with
  | nil => simp [visibleLocals]
  | cons t rest ih =>
    match rest, h, ih with
    | [], h, _ => simp [visibleLocals]
    | o :: rest', h, ih =>
      have hlow := outer_below_base t o rest' h
      obtain ⟨ht, _, hrest⟩ := h
      simp only [visibleLocals, List.dropLast_cons_cons, List.flatMap_cons, List.map_append]
      rw [List.nodup_append]
      refine ⟨ht.2.2.1, by simpa [visibleLocals] using ih hrest, ?_⟩
      intro a ha b hb hab
      simp only [List.mem_map] at ha hb
      obtain ⟨sa, hsa, rfl⟩ := ha
      obtain ⟨sb, hsb, rfl⟩ := hb
      have h1 := (ht.2.1 sa hsa).2.1
      have h2 := hlow sb (by simpa [visibleLocals] using hsb)
      omega

theorem no_slot_sharing (ops : List Op) :
    ((visibleLocals (run ops)).map (·.index)).Nodup :=
  visible_locals_distinct _ (inv_run ops)

theorem Inv.last {g : Tab} : ∀ {c : Chain}, Inv c → c.getLast? = some g → Wf true g
  | [_], h, hl => by cases hl; exact h
  | _ :: o :: rest, h, hl => Inv.last (c := o :: rest) h.2.2 (by simpa [List.getLast?_cons_cons] using hl)

/-- globals likewise occupy distinct slots below GlobalCount -/
theorem globals_distinct (ops : List Op) (g : Tab) (h : (run ops).getLast? = some g) :
    (g.store.map (·.index)).Nodup ∧ ∀ s ∈ g.store, s.index < globalCount (run ops) := by
  have wg := (inv_run ops).last h
  exact ⟨wg.2.2.1, fun s hs => by simpa [globalCount, h] using (wg.2.1 s hs).2.2⟩

/-- **LocalCount bounds every local slot**: once all scopes are closed, every
local symbol handed out by a (now popped) scope has a slot below LocalCount, so
`OpGetLocal/OpSetLocal` operands are in range and the operand stack (which
starts at LocalCount) never overlaps a local. -/
theorem local_slots_below_localCount (ops : List Op) (g : Tab) (h : run ops = [g]) :
    ∀ s ∈ g.popped, s.isGlobal = false ∧ s.index < localCount (run ops) := by
  have hi := inv_run ops
  rw [h] at hi
  exact fun s hs => by simpa [localCount, h] using hi.2.2.2 s hs

/-- a local of the current scope ends up in `popped` of the enclosing table at Pop, so the bound above speaks of every
local ever handed out -/
theorem pop_records (t o : Tab) (rest : Chain) :
    ∀ s ∈ t.store ++ t.popped, ∃ o', (pop (t :: o :: rest)).head? = some o' ∧ s ∈ o'.popped :=
  fun _ hs => ⟨_, rfl, List.mem_append_left _ hs⟩

example : (visibleLocals (run [.push, .define "a", .push, .define "b"])).map (·.index) = [1, 0] := by decide
/-- 3 for two locals: Pop adds the child's `nestedMax` to the child's `index`, which already counts the parent's slots
(a safe over-approximation) -/
example : localCount (run [.push, .define "a", .push, .define "b", .pop, .pop]) = 3 := by decide
example : run [.push, .define "a", .push, .define "b", .pop, .pop] ≠ [] := by decide

end EvyV.C17
