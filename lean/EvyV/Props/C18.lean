import EvyV.Model.FsProto
import EvyV.Gen.Shapes
/-!
C18 — `evy fmt -w` never damages a file; `--check` tells the truth.

The theorems are about the call sequence extracted from main.go on every run
(Gen.Shapes): a change such as writing the target directly, dropping an error
check or a missing chmod changes the extracted list and the `decide` below is
re-run on it.
-/
namespace EvyV.C18
open EvyV.FsProto

theorem safe_iff (st : FsState) :
    safe st = true ↔ (st.target.content = .orig ∨ st.target.content = .formatted) ∧ st.target.mode = .orig ∧
      (st.exit = .status 0 → st.target.content = .formatted) := by
  simp only [safe, Bool.and_eq_true, Bool.or_eq_true, beq_iff_eq, bne_iff_ne, and_assoc, Ne, Decidable.imp_iff_not_or]

/-- **Atomic replace and mode preservation**: for the extracted protocol and EVERY adversary —
any single call failing, a short write, a kill before or in the middle of any call — the target
holds its original or the complete formatted text, keeps its permission bits, and a zero exit
status means it holds the formatted text. -/
theorem atomic_replace :
    ∀ adv ∈ adversaries Gen.writeAtomically.length, safe (run Gen.writeAtomically 0 adv {}) = true := by
  -- `+kernel`: plain `decide` evaluates in the elaborator first, slowly
  decide +kernel

theorem mode_preserved :
    ∀ adv ∈ adversaries Gen.writeAtomically.length, (run Gen.writeAtomically 0 adv {}).target.mode = .orig :=
  fun adv h => ((safe_iff _).1 (atomic_replace adv h)).2.1

theorem zero_exit_means_formatted :
    ∀ adv ∈ adversaries Gen.writeAtomically.length,
      (run Gen.writeAtomically 0 adv {}).exit = .status 0 → (run Gen.writeAtomically 0 adv {}).target.content = .formatted :=
  fun adv h => ((safe_iff _).1 (atomic_replace adv h)).2.2

/-- every error of the protocol is checked: a failing call ends the run with a non-zero status -/
theorem all_errors_checked : ∀ p ∈ Gen.writeAtomically, p.2 = "checked" := by decide

/-- **Unparsable files are untouched**: fmtEvyFile reads, then formats (parsing first, returning on
a parse error), and only then — and only with -w — calls writeAtomically. -/
theorem unparsable_untouched :
    Gen.fmtEvyFile = [("readFile", "checked"), ("format", "checked"), ("writeAtomically@if(c.Write)", "returned")] ∧
    Gen.formatCallOrder = ["parser.Parse", "prog.Format"] ∧ Gen.formatParseErrorReturns = true :=
  ⟨rfl, rfl, rfl⟩

/-- **--check is truthful**: errNotFormatted is returned exactly when check mode is on and the
formatter's output differs from the file's own bytes (`in` is the unmodified file content); check
mode never reaches a write (no -w with -c: they are exclusive flags, and fmtEvyFile writes only
under c.Write). -/
theorem check_truthful :
    Gen.formatCheckCond = "(checkOnly && (in != out))" ∧ Gen.formatIn = "string(b)" :=
  ⟨rfl, rfl⟩

/-! Negative witnesses: protocols that are NOT safe are refused by the same check. -/
/-- writing the target in place -/
example : ∃ adv ∈ adversaries 2, safe (run [("readFile", "checked"), ("writeTarget", "checked")] 0 adv {}) = false := by decide +kernel
/-- without chmod the mode is lost -/
example : ∃ adv ∈ adversaries 4,
    safe (run [("createTemp", "checked"), ("write", "checked"), ("close", "checked"), ("rename", "checked")] 0 adv {}) = false := by decide +kernel
/-- an unchecked write error lets a partial file through -/
example : ∃ adv ∈ adversaries 6,
    safe (run [("stat", "checked"), ("createTemp", "checked"), ("chmod", "checked"), ("write", "unchecked"),
               ("close", "checked"), ("rename", "checked")] 0 adv {}) = false := by decide +kernel

end EvyV.C18
