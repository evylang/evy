import EvyV.Spec.Canvas
import EvyV.Gen.Svg
/-!
C19: the SVG platform (Model/Svg.lean: buffering, grouping, stripping of default attributes,
inheritance) shows exactly what the canvas specification (Spec/Canvas.lean) says was drawn — for
every command sequence.
-/
namespace EvyV.C19
open EvyV.Svg EvyV.Svg.Spec

variable {F : Type} (ops : NumOps F)

/-- The only fact about `float64` that the theorem needs: the numbers 1, 60 and 400 have one
representation, so `==` against them is equality (true of IEEE binary64: only 0 has two). -/
def EqExact : Prop :=
  ∀ (a : F) (k : Int), (k = 1 ∨ k = 60 ∨ k = 400) → ops.eq a (ops.ofInt k) = true → a = ops.ofInt k

/-- What the extracted quirks force us to exclude, and the one degenerate input on which the code
itself is inconsistent (an empty stroke colour: a lone text is then black, grouped texts take the fill). -/
def CmdOk (q : Quirks) : Cmd F → Prop
  | .ellipse .. => q.ellipseYUsesX = false
  | .font p => q.baselineRaw = true → ∀ b, p.baseline = some b → b = lit "middle" ∨ b = lit "alphabetic"
  | .stroke c => c ≠ []
  | .color c => c ≠ []
  | _ => True

theorem pick_nil_left (a : Str) : pick [] a = a := by simp [pick]
theorem pick_nil_right (a : Str) : pick a [] = a := by
  unfold pick; split <;> simp_all

theorem pick_strip (s d : Str) (hd : d ≠ []) : pick (strip s d) d = orDefault s d := by
  unfold pick strip orDefault
  by_cases h : s = d
  · subst h; simp [hd]
  · simp [h]

theorem orDefault_ne_nil (s d : Str) (hd : d ≠ []) : orDefault s d ≠ [] := by
  unfold orDefault; split <;> simp_all

theorem pick_of_ne_nil (a b : Str) (h : a ≠ []) : pick a b = a := by simp [pick, h]

theorem lit_ne {s : String} (h : s ≠ "") : lit s ≠ [] := by simpa [lit] using h

theorem black_ne : lit "black" ≠ [] := lit_ne (by decide)
theorem round_ne : lit "round" ≠ [] := lit_ne (by decide)
theorem start_ne : lit "start" ≠ [] := lit_ne (by decide)
theorem alphabetic_ne : lit "alphabetic" ≠ [] := lit_ne (by decide)
theorem normal_ne : lit "normal" ≠ [] := lit_ne (by decide)
theorem zero_ne : lit "0" ≠ [] := lit_ne (by decide)
theorem family_ne : defaultFamily ≠ [] := lit_ne (by decide)

/-- the context a wrapper group provides to its children -/
def ctxA (p : Pen F) : Attr F := (nonDefaultAttr ops p).over rootAttr
def ctxT (t : TextPen F) : TextAttr F := (nonDefaultTextAttr ops t).over (rootTextAttr ops)

theorem empty_over (a : Attr F) : ({} : Attr F).over a = a := by
  cases a; simp [Attr.over, pick]

theorem empty_tover (a : TextAttr F) : ({} : TextAttr F).over a = a := by
  cases a; simp [TextAttr.over, pick]

theorem nd_of_default (p : Pen F) (h : penIsDefault ops p = true) : nonDefaultAttr ops p = {} := by
  simp only [penIsDefault, Bool.and_eq_true, beq_iff_eq] at h
  obtain ⟨⟨⟨⟨h1, h2⟩, h3⟩, h4⟩, h5⟩ := h
  simp [nonDefaultAttr, strip, h1, h2, h3, h4, h5]

theorem unstrip {a d : F} (h : ops.eq a d = true → a = d) :
    (if ops.eq a d = true then (none : Option F) else some a).getD d = a := by
  split
  · next e => exact (h e).symm
  · rfl

theorem ctxA_resolve (hx : EqExact ops) (p : Pen F) : (ctxA ops p).resolve ops = styleOf p := by
  simp only [ctxA, Attr.over, Attr.resolve, nonDefaultAttr, rootAttr, styleOf, pick_nil_right, Option.or_none]
  rw [pick_strip _ _ black_ne, pick_strip _ _ black_ne, pick_strip _ _ round_ne,
    pick_of_ne_nil _ _ (orDefault_ne_nil _ _ black_ne), pick_of_ne_nil _ _ (orDefault_ne_nil _ _ round_ne)]
  congr 1
  exact unstrip ops (hx p.width 1 (.inl rfl))

theorem ctxT_resolve (hx : EqExact ops) (t : TextPen F) : (ctxT ops t).resolve ops = tstyleOf t := by
  have hs : ((if ops.eq t.size (ops.ofInt 60) = true then (none : Option F) else some t.size).or (some (ops.ofInt 60))).getD
      (ops.ofInt 16) = t.size := by
    have := unstrip ops (hx t.size 60 (.inr (.inl rfl)))
    split at this <;> simp [*]
  simp only [ctxT, TextAttr.over, TextAttr.resolve, nonDefaultTextAttr, rootTextAttr, tstyleOf, pick_nil_right, Option.or_none]
  rw [pick_strip _ _ start_ne, pick_strip _ _ alphabetic_ne, pick_strip _ _ normal_ne, pick_strip _ _ family_ne,
    pick_strip _ _ zero_ne, hs, unstrip ops (hx t.weight 400 (.inr (.inr rfl)))]

/-- the shape a pending element stands for under the pen in effect (as a child of the wrapper group) -/
def shapeIn (p : Pen F) (t : TextPen F) (i : Item F) : Shape F := flattenItem ops (ctxA ops p) (ctxT ops t) i

/-- the four forms of element the drawing commands create -/
inductive Created (p : Pen F) : Item F → Prop
  | plain (g : Geo F) (h : g.isText = false) : Created p (.leaf { geo := g })
  | clear (c : Str) (hc : c ≠ []) (x y : F) (w h : Str) :
      Created p (.leaf { attr := { fill := c, stroke := c }, geo := .rect x y w h })
  | text (x y : F) (s : Str) :
      Created p (.leaf { attr := if p.fill != p.stroke then { fill := p.stroke } else {}, geo := .text x y s })
  | grid (c : Str) (lines : List (GridLine F)) : Created p (.grid { attr := { stroke := c }, lines := lines })

theorem own_over_resolve (f s : Str) (ctx : Attr F) :
    (({ fill := f, stroke := s } : Attr F).over ctx).resolve ops =
      { ctx.resolve ops with fill := if f = [] then (ctx.resolve ops).fill else f,
                             stroke := if s = [] then (ctx.resolve ops).stroke else s } := by
  by_cases hf : f = [] <;> by_cases hs : s = [] <;> simp [Attr.over, Attr.resolve, pick, hf, hs]

theorem ctxA_default (p : Pen F) (h : penIsDefault ops p = true) : ctxA ops p = rootAttr := by
  simp [ctxA, nd_of_default ops p h, empty_over]


theorem withOwn_empty (a : Attr F) : withOwn a ({} : Attr F) = a := by
  cases a; simp [withOwn]

/-- what Push sets on a lone element or on the wrapper group is, over the root, the group context -/
theorem pushed_over_root (p : Pen F) :
    (if penIsDefault ops p = true then ({} : Attr F) else nonDefaultAttr ops p).over rootAttr = ctxA ops p := by
  split
  · next h => rw [ctxA_default ops _ h, empty_over]
  · rfl

theorem orDefault_of_ne_nil (s d : Str) (h : s ≠ []) : orDefault s d = s := by simp [orDefault, h]

theorem fill_stroke (a : Attr F) :
    (if (a.fill != a.stroke) = true then { a with fill := a.stroke } else a) = { a with fill := a.stroke } := by
  split
  · rfl
  · next h => cases a; simp_all

theorem ctxA_fill (p : Pen F) : (Attr.resolve ops (ctxA ops p)).fill = orDefault p.fill (lit "black") := by
  simp only [ctxA, Attr.over, Attr.resolve, nonDefaultAttr, rootAttr, pick_nil_right, pick_strip _ _ black_ne]

/-- in a group a text is filled with its stroke colour: by its own attribute or the pen's colours agree -/
theorem text_in_group (p : Pen F) (hs : p.stroke ≠ []) :
    Attr.resolve ops ((if (p.fill != p.stroke) = true then ({ fill := p.stroke } : Attr F) else {}).over (ctxA ops p)) =
      { Attr.resolve ops (ctxA ops p) with fill := p.stroke } := by
  split
  · rw [show ({ fill := p.stroke } : Attr F) = { fill := p.stroke, stroke := [] } from rfl, own_over_resolve]
    simp [hs]
  · next h =>
    have e : p.fill = p.stroke := by simpa using h
    rw [empty_over, ← orDefault_of_ne_nil _ (lit "black") hs, ← e, ← ctxA_fill]

/-- Push on a single pending element gives the shape it would have inside a group (`pushed_over_root`) -/
theorem single_eq_group (p : Pen F) (t : TextPen F) (i : Item F) (hc : Created p i) (hs : p.stroke ≠ []) :
    flattenItem ops rootAttr (rootTextAttr ops) (applySingle ops p t i) = shapeIn ops p t i := by
  cases hc with
  | plain g hg =>
    cases g <;> simp_all [applySingle, shapeIn, flattenItem, Geo.isText, empty_over, withOwn_empty, pushed_over_root]
  | clear c hc x y w h =>
    by_cases hd : penIsDefault ops p = true
    · simp [applySingle, shapeIn, flattenItem, Geo.isText, ctxA_default, hd]
    · simp [applySingle, shapeIn, flattenItem, Geo.isText, hd, withOwn, hc, ctxA, Attr.over, Attr.resolve, pick]
  | text x y str =>
    simp only [applySingle, shapeIn, flattenItem, Geo.isText, if_true, ctxT, empty_tover]
    rw [text_in_group ops p hs]
    congr 1
    split
    · next hd => rw [← text_in_group ops p hs, ctxA_default ops p hd]
    · rw [fill_stroke]
      simp only [Attr.over, Attr.resolve, ctxA, rootAttr, nonDefaultAttr, pick_nil_right, pick_strip _ _ black_ne,
        orDefault_of_ne_nil _ _ hs]
  | grid c lines =>
    by_cases hd : penIsDefault ops p = true
    · simp [applySingle, shapeIn, flattenItem, ctxA_default, hd]
    · by_cases hc : c = [] <;>
        simp [applySingle, shapeIn, flattenItem, hd, withOwn, hc, ctxA, Attr.over, Attr.resolve, pick]

theorem shape_plain (hx : EqExact ops) (p : Pen F) (t : TextPen F) (g : Geo F) (hg : g.isText = false) :
    shapeIn ops p t (.leaf { geo := g }) = .leaf (styleOf p) none g := by
  simp [shapeIn, flattenItem, hg, empty_over, ctxA_resolve ops hx]

theorem shape_clear (hx : EqExact ops) (p : Pen F) (t : TextPen F) (c : Str) (hc : c ≠ []) (x y : F) (w h : Str) :
    shapeIn ops p t (.leaf { attr := { fill := c, stroke := c }, geo := .rect x y w h }) =
      .leaf { styleOf p with fill := c, stroke := c } none (.rect x y w h) := by
  simp [shapeIn, flattenItem, Geo.isText, own_over_resolve, ctxA_resolve ops hx, hc]

theorem shape_text (hx : EqExact ops) (p : Pen F) (t : TextPen F) (x y : F) (s : Str) (hs : p.stroke ≠ []) :
    shapeIn ops p t (.leaf { attr := if p.fill != p.stroke then { fill := p.stroke } else {}, geo := .text x y s }) =
      .leaf (textStyleOf p) (some (tstyleOf t)) (.text x y s) := by
  simp only [shapeIn, flattenItem, Geo.isText, if_true, empty_tover, ctxT_resolve ops hx, text_in_group ops p hs,
    ctxA_resolve ops hx, textStyleOf, orDefault_of_ne_nil _ _ hs]

theorem shape_grid (hx : EqExact ops) (p : Pen F) (t : TextPen F) (c : Str) (lines : List (GridLine F)) :
    shapeIn ops p t (.grid { attr := { stroke := c }, lines := lines }) =
      .grid (if c == [] then (styleOf p).stroke else c) lines := by
  have := own_over_resolve ops [] c (ctxA ops p)
  simp only [shapeIn, flattenItem]
  rw [show ({ stroke := c } : Attr F) = { fill := [], stroke := c } from rfl, this]
  by_cases hc : c = [] <;> simp [ctxA_resolve ops hx, hc]

def flatTops (tops : List (Top F)) : List (Shape F) := tops.flatMap (flattenTop ops rootAttr (rootTextAttr ops))

/-- everything drawn so far: what is already in the document, then what the pending elements stand for -/
def out (s : State F) : List (Shape F) := flatTops ops s.tops ++ s.pending.map (shapeIn ops s.pen s.tpen)

def canvasOf (s : State F) : Canvas F := { x := s.x, y := s.y, pen := s.pen, tpen := s.tpen }

/-- style commands push first, so what is pending was created under the pen still in effect -/
def Good (s : State F) : Prop := (∀ i ∈ s.pending, Created s.pen i) ∧ s.pen.stroke ≠ []

theorem push_spec (s : State F) (hg : Good s) :
    flatTops ops (push ops s).tops = out ops s ∧ (push ops s).pending = [] ∧
    (push ops s).pen = s.pen ∧ (push ops s).tpen = s.tpen ∧ (push ops s).x = s.x ∧ (push ops s).y = s.y := by
  obtain ⟨hc, hs⟩ := hg
  unfold push out
  match hp : s.pending with
  | [] => simp [hp]
  | [i] =>
    have := single_eq_group ops s.pen s.tpen i (hc i (by simp [hp])) hs
    simp [flatTops, flattenTop, this]
  | i :: j :: rest =>
    simp [flatTops, flattenTop, pushed_over_root, shapeIn, ctxT]


theorem out_add (s : State F) (i : Item F) : out ops (add s i) = out ops s ++ [shapeIn ops s.pen s.tpen i] := by
  simp [out, add]

theorem good_add (s : State F) (i : Item F) (hg : Good s) (hi : Created s.pen i) : Good (add s i) := by
  obtain ⟨h1, h2⟩ := hg
  refine ⟨?_, h2⟩
  intro j hj
  simp only [add, List.mem_append, List.mem_singleton] at hj
  rcases hj with hj | hj
  · exact h1 j hj
  · subst hj; exact hi

theorem baseline_eq (q : Quirks) (b cur : Str)
    (h : q.baselineRaw = true → b = lit "middle" ∨ b = lit "alphabetic") :
    mapBaseline q b cur = baselineOf b cur := by
  unfold mapBaseline baselineOf
  cases hq : q.baselineRaw
  · simp
  · have h1 : (lit "middle" == lit "top") = false := by decide
    have h2 : (lit "alphabetic" == lit "top") = false := by decide
    have h3 : (lit "alphabetic" == lit "middle") = false := by decide
    have h4 : (lit "alphabetic" == lit "bottom") = false := by decide
    rcases h hq with rfl | rfl <;> simp [h1, h2, h3, h4]

/-- each property writes its own field and reads only a field no earlier step wrote; only the baseline may be computed
differently. By cases, 2^7: field by field fails, the `match` blocks projection reduction until all are split -/
theorem applyFont_eq (q : Quirks) (t : TextPen F) (p : FontProps F) :
    applyFont ops q t p =
      { setFont ops t p with baseline := match p.baseline with
          | some b => mapBaseline q b t.baseline
          | none => t.baseline } := by
  rcases p with ⟨_ | fam, _ | sz, _ | wt, _ | st, _ | bl, _ | al, _ | sp⟩ <;> rfl

theorem font_eq (q : Quirks) (t : TextPen F) (p : FontProps F)
    (h : q.baselineRaw = true → ∀ b, p.baseline = some b → b = lit "middle" ∨ b = lit "alphabetic") :
    applyFont ops q t p = setFont ops t p := by
  rw [applyFont_eq]
  rcases p with ⟨fam, sz, wt, st, _ | b, al, sp⟩
  · rfl
  · simp only [baseline_eq q b _ (fun hq => h hq b rfl)]; rfl

theorem style_spec {s : State F} (hg : Good s) (f : Pen F → Pen F) (g : TextPen F → TextPen F)
    (hne : (f s.pen).stroke ≠ []) :
    out ops { push ops s with pen := f (push ops s).pen, tpen := g (push ops s).tpen } = out ops s ++ [] ∧
    canvasOf { push ops s with pen := f (push ops s).pen, tpen := g (push ops s).tpen } =
      { canvasOf s with pen := f s.pen, tpen := g s.tpen } ∧
    Good ({ push ops s with pen := f (push ops s).pen, tpen := g (push ops s).tpen } : State F) := by
  obtain ⟨hp1, hp2, hp3, hp4, hp5, hp6⟩ := push_spec ops s hg
  rw [hp3, hp4]
  refine ⟨by simp [out, hp2, hp1], by simp [canvasOf, hp5, hp6], ?_, hne⟩
  intro i hi; simp [hp2] at hi

theorem draw_spec {s : State F} (hg : Good s) (x y : F) {i : Item F} {sh : Shape F} (hi : Created s.pen i)
    (hsh : shapeIn ops s.pen s.tpen i = sh) :
    out ops (add { s with x := x, y := y } i) = out ops s ++ [sh] ∧
    canvasOf (add { s with x := x, y := y } i) = { canvasOf s with x := x, y := y } ∧
    Good (add { s with x := x, y := y } i) :=
  ⟨by rw [out_add, ← hsh]; rfl, rfl, good_add _ _ (show Good { s with x := x, y := y } from hg) hi⟩

/-- one command: the document gains exactly the shapes the specification paints, and the pen agrees -/
theorem step_spec (hx : EqExact ops) (q : Quirks) (fuel : Nat) (s : State F) (c : Cmd F) (hg : Good s)
    (hc : CmdOk q c) :
    out ops (Svg.step ops q fuel s c) = out ops s ++ (Spec.step ops fuel (canvasOf s) c).2 ∧
    canvasOf (Svg.step ops q fuel s c) = (Spec.step ops fuel (canvasOf s) c).1 ∧ Good (Svg.step ops q fuel s c) := by
  cases c with
  | move x y => exact ⟨by simp [Svg.step, Spec.step, out], by simp [Svg.step, Spec.step, canvasOf], hg⟩
  | line x y => exact draw_spec ops hg _ _ (Created.plain _ rfl) (shape_plain ops hx _ _ _ rfl)
  | rect w h => exact draw_spec ops hg _ _ (Created.plain _ rfl) (shape_plain ops hx _ _ _ rfl)
  | circle r => exact draw_spec ops hg _ _ (Created.plain _ rfl) (shape_plain ops hx _ _ _ rfl)
  | clear col =>
    have hne : (if col == [] then lit "white" else col) ≠ [] := by
      split
      · decide
      · rename_i h; simpa using h
    exact draw_spec ops hg _ _ (Created.clear _ hne _ _ _ _) (shape_clear ops hx _ _ _ hne _ _ _ _)
  | poly pts => exact draw_spec ops hg _ _ (Created.plain _ rfl) (shape_plain ops hx _ _ _ rfl)
  | ellipse x y rx ry rot =>
    have hq : q.ellipseYUsesX = false := hc
    simp only [Svg.step, Spec.step, hq]
    exact draw_spec ops hg _ _ (Created.plain _ rfl) (shape_plain ops hx _ _ _ rfl)
  | text str => exact draw_spec ops hg _ _ (Created.text _ _ _) (shape_text ops hx _ _ _ _ _ hg.2)
  | gridn u col => exact draw_spec ops hg _ _ (Created.grid _ _) (shape_grid ops hx _ _ _ _)
  | width w => exact style_spec ops hg (fun p => { p with width := scale ops w }) id hg.2
  | color col => exact style_spec ops hg (fun p => { p with stroke := col, fill := col }) id hc
  | stroke col => exact style_spec ops hg (fun p => { p with stroke := col }) id hc
  | fill col => exact style_spec ops hg (fun p => { p with fill := col }) id hg.2
  | dash segs => exact style_spec ops hg (fun p => { p with dash := dashStr ops segs }) id hg.2
  | linecap cap => exact style_spec ops hg (fun p => { p with linecap := cap }) id hg.2
  | font p =>
    have := style_spec ops hg id (applyFont ops q · p) hg.2
    rwa [font_eq ops q s.tpen p hc] at this


theorem run_spec (hx : EqExact ops) (q : Quirks) (fuel : Nat) (cmds : List (Cmd F)) :
    ∀ (s : State F), Good s → (∀ c ∈ cmds, CmdOk q c) →
      out ops (cmds.foldl (Svg.step ops q fuel) s) = out ops s ++ runFrom ops fuel (canvasOf s) cmds ∧
      Good (cmds.foldl (Svg.step ops q fuel) s) := by
  induction cmds with
  | nil => intro s hg _; simp [runFrom, hg]
  | cons c rest ih =>
    intro s hg hq
    obtain ⟨h1, h2, h3⟩ := step_spec ops hx q fuel s c hg (hq c (by simp))
    obtain ⟨i1, i2⟩ := ih (Svg.step ops q fuel s c) h3 (fun c' hc' => hq c' (by simp [hc']))
    refine ⟨?_, i2⟩
    simp only [List.foldl_cons, runFrom]
    rw [i1, h1, h2, List.append_assoc]

theorem init_good : Good (init ops) :=
  ⟨fun i hi => List.mem_singleton.1 hi ▸ Created.clear _ (by decide) _ _ _ _, black_ne⟩

/-- **C19** (every command sequence, any length): the shapes a viewer sees in the written SVG
document — after resolving inherited attributes — are the background followed by exactly one
shape per drawing command, in order, with the command's geometry and the pen style in effect.

For every pair of quirks `q` (the one extracted from runtime.go is `quirks`); `CmdOk` excludes the commands they affect
(and `stroke ""`), see `ellipse_y_defect`, `baseline_defect`, `empty_stroke_defect`. -/
theorem render_is_canvas (hx : EqExact ops) (q : Quirks) (fuel : Nat) (cmds : List (Cmd F))
    (hq : ∀ c ∈ cmds, CmdOk q c) :
    flatten ops (writeSVG ops (Svg.run ops q fuel cmds)) = Spec.run ops fuel cmds := by
  obtain ⟨h1, h2⟩ := run_spec ops hx q fuel cmds (init ops) (init_good ops) hq
  obtain ⟨p1, _⟩ := push_spec ops _ h2
  have hinit : out ops (init ops) =
      [.leaf { styleOf (defaultPen ops) with fill := lit "white", stroke := lit "white" } none
        (.rect ops.zero ops.zero (lit "100%") (lit "100%"))] := by
    have := shape_clear ops hx (defaultPen ops) (defaultTextPen ops) (lit "white") (by decide) ops.zero ops.zero
      (lit "100%") (lit "100%")
    simp [out, init, flatTops, clearItem, this]
  simp only [flatten, writeSVG, Svg.run]
  change flatTops ops _ = _
  rw [p1, h1, hinit]
  rfl

/-- the corollary for code without the quirks: no exclusion except the empty stroke colour -/
theorem render_is_canvas_clean (hx : EqExact ops) (fuel : Nat) (cmds : List (Cmd F))
    (hs : ∀ c ∈ cmds, c ≠ Cmd.stroke [] ∧ c ≠ Cmd.color []) :
    flatten ops (writeSVG ops (Svg.run ops ⟨false, false⟩ fuel cmds)) = Spec.run ops fuel cmds := by
  apply render_is_canvas ops hx
  intro c hc
  obtain ⟨h1, h2⟩ := hs c hc
  cases c with
  | stroke col => exact fun h => h1 (by rw [h])
  | color col => exact fun h => h2 (by rw [h])
  | font p => intro h; cases h
  | ellipse => rfl
  | _ => trivial

/-- every command that takes a point maps it with `tx`/`ty` (given the ellipse quirk is off) -/
theorem transform_uniform (fuel : Nat) (s : State F) (x y : F) :
    (Svg.step ops ⟨false, false⟩ fuel s (.move x y)).x = tx ops x ∧
    (Svg.step ops ⟨false, false⟩ fuel s (.move x y)).y = ty ops y ∧
    (Svg.step ops ⟨false, false⟩ fuel s (.line x y)).x = tx ops x ∧
    (Svg.step ops ⟨false, false⟩ fuel s (.line x y)).y = ty ops y ∧
    (∀ rx ry rot, (Svg.step ops ⟨false, false⟩ fuel s (.ellipse x y rx ry rot)).pending.getLast? =
      some (Item.leaf ⟨{}, {}, Geo.ellipse (tx ops x) (ty ops y) (scale ops rx) (scale ops ry)
        (if ops.eq rot ops.zero then none else some (rot, tx ops x, ty ops y))⟩)) ∧
    (Svg.step ops ⟨false, false⟩ fuel s (.poly [(x, y)])).pending.getLast? =
      some (Item.leaf ⟨{}, {}, Geo.polyline (ops.fmt (tx ops x) ++ [','] ++ ops.fmt (ty ops y))⟩) := by
  simp [Svg.step, add, pointsStr, joinWith]

/-! ### the extracted facts the model rests on (tie T1) -/

/-- the quirks as read from runtime.go on this run -/
def quirks : Quirks :=
  { ellipseYUsesX := Gen.ellipseYTransform == "rt.transformX", baselineRaw := Gen.baselineRawOverwrite }

theorem extracted_facts :
    (Gen.ellipseYTransform = "rt.transformX" ∨ Gen.ellipseYTransform = "rt.transformY") ∧
    Gen.defaultAttr = [("Fill", "black"), ("Stroke", "black"), ("StrokeWidth", "&defaultStrokeWidth"),
      ("StrokeLinecap", "round"), ("StrokeDashArray", "")] ∧
    Gen.defaultTextAttr = [("TextAnchor", "start"), ("Baseline", "alphabetic"), ("FontSize", "&defaultFontSize"),
      ("FontWeight", "&defaultFontWeight"), ("FontStyle", "normal"), ("FontFamily", "\"Fira Code\", monospace"),
      ("LetterSpacing", "0")] ∧
    Gen.numbers = [("evyWidth", "100"), ("evyHeight", "100"), ("scaleFactor", "10"), ("defaultStrokeWidth", "1.0"),
      ("defaultFontSize", "60.0"), ("defaultFontWeight", "400.0")] ∧
    Gen.transforms = [("transformX", "rt.scale(x)"), ("transformY", "(rt.scale(evyHeight) - rt.scale(y))"),
      ("scale", "float64((scaleFactor * s))")] ∧
    Gen.pushFirst = ["Width", "Color", "Stroke", "Fill", "Dash", "Linecap", "Font", "WriteSVG"] ∧
    Gen.appendsElement = ["Line", "Rect", "Circle", "Clear", "Poly", "Ellipse", "Text", "Gridn"] ∧
    Gen.assigns = [("Move", "rt.x rt.y"), ("Line", "rt.x rt.y"), ("Rect", "rt.x rt.y"),
      ("Width", "rt.attr.StrokeWidth"), ("Color", "rt.attr.Stroke rt.attr.Fill"), ("Stroke", "rt.attr.Stroke"),
      ("Fill", "rt.attr.Fill"), ("Dash", "rt.attr.StrokeDashArray"), ("Linecap", "rt.attr.StrokeLinecap"),
      ("Font", "rt.textAttr.FontFamily rt.textAttr.FontSize rt.textAttr.FontWeight rt.textAttr.FontStyle rt.textAttr.Baseline rt.textAttr.TextAnchor rt.textAttr.LetterSpacing")] ∧
    Gen.fontBaseline = [("top", "hanging"), ("middle", "middle"), ("bottom", "ideographic"), ("alphabetic", "alphabetic")] ∧
    Gen.fontAlign = [("left", "start"), ("right", "end"), ("center", "middle")] ∧
    Gen.setters = [("*Group.setAttr", "g.Attr = a.withOwn(g.Attr)"), ("*Group.setTextAttr", "g.TextAttr = ta"),
      ("*Line.setAttr", "l.Attr = a"), ("*Circle.setAttr", "c.Attr = a"), ("*Rect.setAttr", "r.Attr = a.withOwn(r.Attr)"),
      ("*Polyline.setAttr", "p.Attr = a"), ("*Ellipse.setAttr", "p.Attr = a"),
      ("*Text.setAttr", "t.Attr = a; if (t.Attr.Fill != t.Attr.Stroke) {t.Attr.Fill = t.Attr.Stroke;}"),
      ("*Text.setTextAttr", "t.TextAttr = ta")] :=
  ⟨by decide, rfl, rfl, rfl, rfl, rfl, rfl, rfl, rfl, rfl, rfl⟩

/-! ### the excluded inputs really fail (negative witnesses, on the integer instance) -/

def exEllipse : List (Cmd Int) := [.ellipse 20 30 5 5 0]

/-- with the extracted ellipse quirk the SVG shows the ellipse at y = 300 instead of 700 -/
theorem ellipse_y_defect :
    flatten intOps (writeSVG intOps (Svg.run intOps ⟨true, false⟩ 10 exEllipse)) ≠ Spec.run intOps 10 exEllipse := by
  decide

def exBaseline : List (Cmd Int) := [.font { baseline := some (lit "top") }, .text (lit "a")]

/-- with the raw overwrite the text gets dominant-baseline="top" (not an SVG value) instead of "hanging" -/
theorem baseline_defect :
    flatten intOps (writeSVG intOps (Svg.run intOps ⟨false, true⟩ 10 exBaseline)) ≠ Spec.run intOps 10 exBaseline := by
  decide

def exEmptyStroke : List (Cmd Int) := [.fill (lit "red"), .stroke [], .text (lit "a"), .text (lit "b")]

/-- an empty stroke colour: two texts in one group are filled red, a lone text black -/
theorem empty_stroke_defect :
    flatten intOps (writeSVG intOps (Svg.run intOps ⟨false, false⟩ 10 exEmptyStroke)) ≠ Spec.run intOps 10 exEmptyStroke := by
  decide

theorem intOps_exact : EqExact intOps := by
  intro a k _ h; simpa [intOps] using h

def exHistory : List (Cmd Int) :=
  [.color (lit "red"), .clear (lit "blue"), .width 2, .circle 5, .text (lit "<&>"), .dash [1, 2], .gridn 50 (lit "grey"),
   .move 10 10, .line 20 20, .font { size := some 3, align := some (lit "center") }, .text (lit "x")]

example : (∀ c ∈ exHistory, CmdOk ⟨true, true⟩ c) ∧ (Spec.run intOps 100 exHistory).length = 7 := by
  constructor
  · intro c hc
    simp only [exHistory, List.mem_cons, List.not_mem_nil, or_false] at hc
    rcases hc with rfl | rfl | rfl | rfl | rfl | rfl | rfl | rfl | rfl | rfl | rfl <;>
      first | trivial | (intro h; exact absurd h (by decide)) | (intro _ b hb; cases hb)
  · decide

/-- `(1001 - i).toNat` is the measure: 1002 from `i = 0` -/
theorem gridFinishes_int (unit : Int) (hu : 0 < unit) :
    ∀ (fuel : Nat) (i : Int), 0 ≤ i → (1001 - i).toNat < fuel → gridFinishes intOps unit fuel i = true := by
  intro fuel
  induction fuel with
  | zero => intro i _ h; omega
  | succ n ih =>
    intro i hi h
    unfold gridFinishes
    by_cases hle : i ≤ 1000
    · have : intOps.le i (intOps.ofInt 1000) = true := by simp [intOps, hle]
      simp only [this, if_true]
      apply ih (intOps.add i unit)
      · simp [intOps]; omega
      · simp only [intOps]; omega
    · have : intOps.le i (intOps.ofInt 1000) = false := by simp [intOps, hle]
      simp [this]

/-- with the check `unit > 0` of gridnFunc the loop ends within 1002 iterations -/
theorem gridn_terminates (unit : Int) (hu : 0 < unit) : gridFinishes intOps unit 1002 0 = true :=
  gridFinishes_int unit hu 1002 0 (by omega) (by omega)

/-- without the check it does not: `gridn 0` never ends (no fuel suffices) -/
theorem gridn_zero_diverges (fuel : Nat) : gridFinishes intOps 0 fuel 0 = false := by
  induction fuel with
  | zero => rfl
  | succ n ih => simpa [gridFinishes, intOps] using ih

end EvyV.C19
