import EvyV.Model.Envelope
/-!
C20 — sealed answers round-trip and answer verification is exact.

Cryptography is idealised, as hypotheses of the theorems (never as axioms):
`RoundTrip`: RSA-OAEP and AES-GCM decrypt what they encrypted;
`Integrity` (for a given sealing): whatever RSA part and AES part an adversary
presents, if both open then the plaintext is the sealed one.
-/
namespace EvyV.C20
open EvyV.Envelope

variable (c : Crypto)

structure RoundTrip (pub : c.Pub) (priv : c.Priv) : Prop where
  rsa : ∀ m r, c.rsaDec priv (c.rsaEnc pub m r) = some m
  aes : ∀ k m, c.gcmOpen k (c.gcmSeal k m) = some m

theorem u16_roundtrip (n : Nat) (h : n < 65536) : readU16 ((n / 256) % 256) (n % 256) = n := by
  unfold readU16; omega

/-- **Round trip** for every text of every length and every session key, as long as the RSA
ciphertext is shorter than 64 KiB (true for every RSA modulus up to 524 280 bits). -/
theorem unseal_seal (pub : c.Pub) (priv : c.Priv) (h : RoundTrip c pub priv)
    (text sk : Bytes) (rnd : Nat) (hlen : (c.rsaEnc pub sk rnd).length < 65536) :
    decrypt c priv (encrypt c pub text sk rnd) = .ok text := by
  unfold encrypt decrypt u16be
  simp only [List.cons_append, List.nil_append]
  rw [u16_roundtrip _ hlen]
  simp [h.rsa, h.aes]

/-- a crypto that encrypts nothing: it meets `RoundTrip`, so the hypotheses of `unseal_seal` can be met -/
def toyCrypto : Crypto where
  Pub := Unit
  Priv := Unit
  rsaEnc := fun _ m _ => m
  rsaDec := fun _ m => some m
  gcmSeal := fun _ m => m
  gcmOpen := fun _ m => some m

theorem toy_roundtrip : RoundTrip toyCrypto () () := ⟨fun _ _ => rfl, fun _ _ => rfl⟩

example : decrypt toyCrypto () (encrypt toyCrypto () [7, 8] [1, 2, 3] 0) = .ok [7, 8] :=
  unseal_seal toyCrypto () () toy_roundtrip [7, 8] [1, 2, 3] 0 (by decide)

/-- Idealised integrity for one sealing of `text`: no (RSA part, AES part) presented to the
private key opens to another plaintext. -/
def Integrity (priv : c.Priv) (text : Bytes) : Prop :=
  ∀ rsaPart aesPart sk pt, c.rsaDec priv rsaPart = some sk → c.gcmOpen sk aesPart = some pt → pt = text

/-- anything shorter than the three header bytes is rejected -/
theorem too_short_rejected (priv : c.Priv) (env' : Bytes) (h : env'.length < 3) :
    decrypt c priv env' = .error .tooShort := by
  match env', h with
  | [], _ => rfl
  | [_], _ => rfl
  | [_, _], _ => rfl
  | _ :: _ :: _ :: _, h => simp at h; omega

/-- a plaintext that comes out went through both primitives -/
theorem decrypt_ok {priv : c.Priv} {env' pt : Bytes} (h : decrypt c priv env' = .ok pt) :
    ∃ rsaPart aesPart sk, c.rsaDec priv rsaPart = some sk ∧ c.gcmOpen sk aesPart = some pt := by
  unfold decrypt at h
  split at h
  · simp only [] at h
    split at h
    · cases h
    · split at h
      · cases h
      · next sk hr =>
        split at h
        · cases h
        · next ho => cases h; exact ⟨_, _, sk, hr, ho⟩
  · cases h

/-- **Tamper safety**: for EVERY byte string presented as the sealed value (not only single-byte
changes and truncations: any change of version, length field, RSA part or AES part), decryption
either fails or yields the original text. -/
theorem tamper_safe (priv : c.Priv) (text : Bytes) (hI : Integrity c priv text) (env' : Bytes) :
    decrypt c priv env' = .ok text ∨ ∃ e, decrypt c priv env' = .error e := by
  cases h : decrypt c priv env' with
  | error e => exact .inr ⟨e, rfl⟩
  | ok pt =>
    obtain ⟨_, _, _, h1, h2⟩ := decrypt_ok c h
    exact .inl (by rw [hI _ _ _ _ h1 h2])

/-- a truncation that cuts into the RSA part is rejected before any key is used -/
theorem truncated_rsa_rejected (priv : c.Priv) (v hi lo : Nat) (rest : Bytes) (h : rest.length < readU16 hi lo) :
    decrypt c priv (v :: hi :: lo :: rest) = .error .tooShort := by
  simp [decrypt, h]

/-- **Exactness**: verification accepts exactly when the marked choices are precisely the
choices whose output equals the question's output — including marks beyond the last choice. -/
theorem verify_iff {α : Type} [DecidableEq α] (marked : Nat → Bool) (maxLetter : Nat) (gen : α) (outputs : List α)
    (hmax : ∀ i, marked i = true → i < maxLetter) :
    verifyChoice marked maxLetter gen outputs = true ↔
      ∀ i, marked i = true ↔ (∃ h : i < outputs.length, outputs[i] = gen) := by
  unfold verifyChoice
  simp only [Bool.and_eq_true, List.all_eq_true, List.mem_range, Bool.not_eq_eq_eq_not, Bool.not_true,
    Bool.and_eq_false_imp, decide_eq_false_iff_not, Nat.not_le, Bool.or_eq_true, Bool.and_eq_true, beq_iff_eq,
    bne_iff_ne, ne_eq, Prod.forall, List.mk_mem_zipIdx_iff_getElem?, List.getElem?_eq_some_iff]
  constructor
  · rintro ⟨h1, h2⟩ i
    constructor
    · intro hm
      have hlt : i < outputs.length := h2 i (hmax i hm) hm
      exact ⟨hlt, (h1 _ i ⟨hlt, rfl⟩).elim (·.2) fun h => absurd hm (by simp [h.1])⟩
    · rintro ⟨hlt, he⟩
      exact (h1 _ i ⟨hlt, rfl⟩).elim (·.1) fun h => absurd he h.2
  · intro h
    refine ⟨?_, fun i _ hm => ((h i).1 hm).1⟩
    rintro x i ⟨hlt, rfl⟩
    by_cases hm : marked i = true
    · exact .inl ⟨hm, ((h i).1 hm).2⟩
    · exact .inr ⟨by simpa using hm, fun he => hm ((h i).2 ⟨hlt, he⟩)⟩

example : verifyChoice (fun i => i == 0 || i == 2) 26 "hi" ["hi", "ho", "hi", "hey"] = true := by decide
example : verifyChoice (fun i => i == 0) 26 "hi" ["hi", "ho", "hi", "hey"] = false := by decide
/-- a mark beyond the last choice is rejected -/
example : verifyChoice (fun i => i == 0 || i == 4) 26 "hi" ["hi", "ho", "hey"] = false := by decide

end EvyV.C20
