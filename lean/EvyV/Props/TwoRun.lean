import EvyV.Props.Frame
/-!
The two-run half of C14: the run whose stop flag is raised during yield k, against the uninterrupted run from the
same state. While the flag is down the two are in lock step (states equal but for the stop request and the flag:
`ov`); from the first tick that finds it up the stopped run returns `stopped`, and the other only extends the trace.

One induction carries both facts about every piece of the interpreter (`Two`), since the two-run half needs the frame
half: when the first run stops inside a call, the second goes on through the rest of the caller (`Two.bind`).
-/
namespace EvyV
variable {F : Type}

/-- the state of the stopped run, read off the state `b` of the uninterrupted one: its flag is up if `b`'s is
(an oracle miss raises both) or if the requested yield has happened -/
def ov (sa : Option Nat) (x : Bool) (b : St F) : St F := { b with stopAt := sa, stopped := b.stopped || x }

section
variable (sa : Option Nat) (x : Bool) (b : St F)

@[simp] theorem ov_heap : (ov sa x b).heap = b.heap := rfl
@[simp] theorem ov_locals : (ov sa x b).locals = b.locals := rfl
@[simp] theorem ov_global : (ov sa x b).global = b.global := rfl
@[simp] theorem ov_trace : (ov sa x b).trace = b.trace := rfl
@[simp] theorem ov_yields : (ov sa x b).yields = b.yields := rfl
@[simp] theorem ov_input : (ov sa x b).input = b.input := rfl
@[simp] theorem ov_testTotal : (ov sa x b).testTotal = b.testTotal := rfl
@[simp] theorem ov_testFails : (ov sa x b).testFails = b.testFails := rfl
@[simp] theorem ov_failFast : (ov sa x b).failFast = b.failFast := rfl
@[simp] theorem ov_noSummary : (ov sa x b).noSummary = b.noSummary := rfl
@[simp] theorem ov_misses : (ov sa x b).misses = b.misses := rfl
@[simp] theorem ov_randLog : (ov sa x b).randLog = b.randLog := rfl
@[simp] theorem ov_stopAt : (ov sa x b).stopAt = sa := rfl
@[simp] theorem ov_stopped : (ov sa x b).stopped = (b.stopped || x) := rfl

theorem getVar_ov (n : Str) : getVar (ov sa x b) n = getVar b n := rfl
theorem heapGet_ov (a : Nat) : heapGet (ov sa x b) a = heapGet b a := rfl
theorem heapSet_ov (a : Nat) (o : Obj F) : heapSet (ov sa x b) a o = ov sa x (heapSet b a o) := rfl
theorem alloc_ov (o : Obj F) : alloc (ov sa x b) o = ((alloc b o).1, ov sa x (alloc b o).2) := rfl
theorem emit_ov (e : Effect F) : emit (ov sa x b) e = ov sa x (emit b e) := rfl
theorem pushScope_ov : pushScope (ov sa x b) = ov sa x (pushScope b) := rfl
theorem popScope_ov : popScope (ov sa x b) = ov sa x (popScope b) := rfl
theorem auxFuel_ov : auxFuel (ov sa x b) = auxFuel b := rfl

theorem setVar_ov (n : Str) (v : Val F) : setVar (ov sa x b) n v = ov sa x (setVar b n v) := by
  unfold setVar
  by_cases h : n = underscore
  · simp [h]
  · simp only [h, if_false, ov_locals]
    cases b.locals <;> rfl

theorem updateVar_ov (n : Str) (v : Val F) : updateVar (ov sa x b) n v = (updateVar b n v).map (ov sa x) := by
  unfold updateVar
  by_cases h : n = underscore
  · simp [h]
  · simp only [h, if_false, ov_locals, ov_global]
    cases updateLocals b.locals n v with
    | some l => rfl
    | none =>
      simp only
      by_cases hg : (scopeGet b.global n).isSome = true
      · simp only [hg, if_true]; rfl
      · simp only [hg]; rfl

theorem callExt_ov (ext : Ext F) (f : String) (args dflt : List (XArg F)) :
    callExt ext (ov sa x b) f args dflt = ((callExt ext b f args dflt).1, ov sa x (callExt ext b f args dflt).2) := by
  unfold callExt
  cases ext.call f args with
  | some r => rfl
  | none => simp [ov]

theorem tick_ov_stopped (h : (ov sa x b).stopped = true) : tick (ov sa x b) = none := tick_stopped _ h

theorem testReport_ov : testReport (ov sa x b) = ov sa x (testReport b) := by
  unfold testReport
  simp only [ov_noSummary, ov_testTotal, ov_testFails, apply_ite (ov sa x), emit_ov]
  rfl

theorem ov_false : ov sa false b = { b with stopAt := sa } := by
  simp [ov]

end

/-- a step that never looks at the stop request: the same result up to `ov`, and a frame. `SameO` is the
`Option`-valued form of `Same` (deepCopy, replicateCopies) -/
def SameO (sa : Option Nat) (x : Bool) (t : St F) {α : Type} (oa ob : Option (α × St F)) : Prop :=
  oa = ob.map (fun p => (p.1, ov sa x p.2)) ∧ ∀ p, ob = some p → Frame t p.2

namespace SameO
variable {sa : Option Nat} {x : Bool} {t : St F} {α β : Type}

theorem none : SameO sa x t (none : Option (α × St F)) none := ⟨rfl, fun _ h => nomatch h⟩
theorem some (a : α) {s : St F} (h : Frame t s) : SameO sa x t (some (a, ov sa x s)) (some (a, s)) :=
  ⟨rfl, fun _ e => Option.some.inj e ▸ h⟩

theorem after {oa ob : Option (α × St F)} {t1 : St F} (h : SameO sa x t1 oa ob) (f : Frame t t1) : SameO sa x t oa ob :=
  ⟨h.1, fun p hp => f.trans (h.2 p hp)⟩

theorem map {oa ob : Option (α × St F)} (h : SameO sa x t oa ob) (g : α → β) :
    SameO sa x t (oa.map fun p => (g p.1, p.2)) (ob.map fun p => (g p.1, p.2)) := by
  obtain ⟨rfl, f⟩ := h
  cases ob with
  | none => exact none
  | some p => exact ⟨rfl, fun q hq => Option.some.inj hq ▸ f p rfl⟩
end SameO

structure Same (sa : Option Nat) (x : Bool) (t : St F) {α : Type} (ra rb : Res F α) : Prop where
  eq : ra = rb.mapSt (ov sa x)
  frame : FrameR t rb

namespace Same
variable {sa : Option Nat} {x : Bool} {t : St F} {α : Type}
theorem ok (v : α) {s : St F} (h : Frame t s) : Same sa x t (.ok v (ov sa x s)) (.ok v s) := ⟨rfl, h⟩
theorem err (o : Outcome) {s : St F} (h : Frame t s) : Same sa x t (.err o (ov sa x s) : Res F α) (.err o s) := ⟨rfl, h⟩
end Same

section
variable (ops : NumOps F) (ext : Ext F) (sa : Option Nat) (x : Bool)

theorem deepCopy_same (fuel : Nat) :
    (∀ (v : Val F) (b : St F), SameO sa x b (deepCopy fuel v (ov sa x b)) (deepCopy fuel v b)) ∧
    (∀ (vs : List (Val F)) (b : St F), SameO sa x b (deepCopyList fuel vs (ov sa x b)) (deepCopyList fuel vs b)) ∧
    (∀ (ps : List (Key × Val F)) (b : St F), SameO sa x b (deepCopyPairs fuel ps (ov sa x b)) (deepCopyPairs fuel ps b)) := by
  induction fuel with
  | zero => exact ⟨fun _ _ => .none, fun _ _ => .none, fun _ _ => .none⟩
  | succ n ih =>
    obtain ⟨ih1, ih2, ih3⟩ := ih
    refine ⟨fun v b => ?_, fun vs b => ?_, fun ps b => ?_⟩
    · cases v with
      | any t w => exact (ih1 w b).map (Val.any t)
      | arr a =>
        simp only [deepCopy, heapGet_ov, (ih2 _ b).1]
        cases heapGet b a with
        | none => exact .none
        | some o =>
          cases o with
          | map m => exact .none
          | arr es =>
            dsimp only
            cases h : deepCopyList n es b with
            | none => exact .none
            | some p => exact .some _ (((ih2 es b).2 p h).trans (alloc_frame _ _))
      | map a =>
        simp only [deepCopy, heapGet_ov, (ih3 _ b).1]
        cases heapGet b a with
        | none => exact .none
        | some o =>
          cases o with
          | arr es => exact .none
          | map m =>
            dsimp only
            cases h : deepCopyPairs n m.pairs b with
            | none => exact .none
            | some p => exact .some _ (((ih3 m.pairs b).2 p h).trans (alloc_frame _ _))
      | num _ | str _ | bool _ | none => exact .some _ (Frame.refl b)
    · cases vs with
      | nil => exact .some _ (Frame.refl b)
      | cons v rest =>
        simp only [deepCopyList, (ih1 v b).1]
        cases h : deepCopy n v b with
        | none => exact .none
        | some p => exact ((ih2 rest p.2).map (p.1 :: ·)).after ((ih1 v b).2 p h)
    · cases ps with
      | nil => exact .some _ (Frame.refl b)
      | cons kv rest =>
        simp only [deepCopyPairs, (ih1 kv.2 b).1]
        cases h : deepCopy n kv.2 b with
        | none => exact .none
        | some p => exact ((ih3 rest p.2).map ((kv.1, p.1) :: ·)).after ((ih1 kv.2 b).2 p h)

theorem replicateCopies_same : ∀ (n fuel : Nat) (v : Val F) (b : St F),
    SameO sa x b (replicateCopies n fuel v (ov sa x b)) (replicateCopies n fuel v b)
  | 0, _, _, b => .some _ (Frame.refl b)
  | n + 1, fuel, v, b => by
    simp only [replicateCopies, ((deepCopy_same sa x fuel).1 v b).1]
    cases h : deepCopy fuel v b with
    | none => exact .none
    | some p =>
      have f1 := ((deepCopy_same sa x fuel).1 v b).2 p h
      obtain ⟨w, s⟩ := p
      cases w <;> try exact .none
      simp only [Option.map_some, heapGet_ov]
      cases heapGet s _ with
      | none => exact .none
      | some o =>
        cases o with
        | map m => exact .none
        | arr es => exact ((replicateCopies_same n fuel v s).map (es ++ ·)).after f1

theorem binNum_same (b : St F) (op : Op) (l r : F) : Same sa x b (binNum ops ext (ov sa x b) op l r) (binNum ops ext b op l r) := by
  cases op <;> try exact .ok _ (Frame.refl b)
  all_goals try exact .err _ (Frame.refl b)
  simp only [binNum, callExt_ov]
  have := callExt_frame ext b "math.mod" [.num l, .num r] [.num l]
  generalize callExt ext b "math.mod" [.num l, .num r] [.num l] = p at this
  split <;> first | exact .ok _ this | exact .err _ this

theorem binArr_same (b : St F) (op : Op) (la : Nat) (right : Val F) :
    Same sa x b (binArr ops (ov sa x b) op la right) (binArr ops b op la right) := by
  unfold binArr
  dsimp only [heapGet_ov]
  cases heapGet b la with
  | none => exact .err _ (Frame.refl b)
  | some o =>
    cases o with
    | map m => exact .err _ (Frame.refl b)
    | arr ls =>
      dsimp only
      cases op <;> try exact .err _ (Frame.refl b)
      case plus =>
        cases right <;> try exact .err _ (Frame.refl b)
        dsimp only
        cases heapGet b _ with
        | none => exact .err _ (Frame.refl b)
        | some o2 => cases o2 <;> first | exact .err _ (Frame.refl b) | exact .ok _ (alloc_frame b _)
      case asterisk =>
        cases right <;> try exact .err _ (Frame.refl b)
        simp only [auxFuel_ov, (replicateCopies_same sa x _ _ _ b).1]
        iterate 3 (split; exact .err _ (Frame.refl b))
        cases h : replicateCopies _ _ _ b with
        | none => exact .err _ (Frame.refl b)
        | some p => exact .ok _ (((replicateCopies_same sa x _ _ _ b).2 p h).trans (alloc_frame _ _))

theorem binStr_same (b : St F) (op : Op) (l r : Str) : Same sa x b (binStr (ov sa x b) op l r) (binStr b op l r) := by
  cases op <;> first | exact .ok _ (Frame.refl b) | exact .err _ (Frame.refl b)

theorem binBool_same (b : St F) (op : Op) (l r : Bool) : Same sa x b (binBool (ov sa x b) op l r) (binBool b op l r) := by
  cases op <;> first | exact .ok _ (Frame.refl b) | exact .err _ (Frame.refl b)

theorem applyBinary_same (b : St F) (op : Op) (l r : Val F) :
    Same sa x b (applyBinary ops ext (ov sa x b) op l r) (applyBinary ops ext b op l r) := by
  unfold applyBinary
  dsimp only [ov_heap, auxFuel_ov]
  repeat' split
  all_goals first
    | exact .ok _ (Frame.refl b) | exact .err _ (Frame.refl b)
    | exact binNum_same .. | exact binStr_same .. | exact binBool_same .. | exact binArr_same ..

theorem indexVal_same (b : St F) (l i : Val F) : Same sa x b (indexVal ops (ov sa x b) l i) (indexVal ops b l i) := by
  unfold indexVal
  dsimp only [heapGet_ov]
  repeat' split
  all_goals first | exact .ok _ (Frame.refl b) | exact .err _ (Frame.refl b)

theorem sliceVal_same (b : St F) (l : Val F) (s e : Option (Val F)) :
    Same sa x b (sliceVal ops (ov sa x b) l s e) (sliceVal ops b l s e) := by
  unfold sliceVal
  dsimp only [heapGet_ov]
  repeat' split
  all_goals first | exact .ok _ (Frame.refl b) | exact .err _ (Frame.refl b) | exact .ok _ (alloc_frame b _)

theorem applyBinary_frame (st : St F) (op : Op) (l r : Val F) : FrameR st (applyBinary ops ext st op l r) :=
  (applyBinary_same ops ext none false st op l r).frame

theorem indexVal_frame (st : St F) (l i : Val F) : FrameR st (indexVal ops st l i) :=
  (indexVal_same ops none false st l i).frame

theorem sliceVal_frame (st : St F) (l : Val F) (s e : Option (Val F)) : FrameR st (sliceVal ops st l s e) :=
  (sliceVal_same ops none false st l s e).frame

theorem zeroVal_ov (b : St F) (t : Ty) : zeroVal ops (ov sa x b) t = ((zeroVal ops b t).1, ov sa x (zeroVal ops b t).2) := by
  cases t <;> rfl

theorem zeroVal_frame (st : St F) (t : Ty) : Frame st (zeroVal ops st t).2 := by
  unfold zeroVal
  cases t <;> first | exact Frame.refl _ | exact alloc_frame _ _

theorem rangerNext_ov (b : St F) (r : Ranger F) : rangerNext ops (ov sa x b) r = rangerNext ops b r := by
  cases r <;> rfl

theorem bindParams_ov : ∀ (ps : List Str) (vs : List (Val F)) (b : St F),
    bindParams ps vs (ov sa x b) = ov sa x (bindParams ps vs b) := by
  intro ps
  induction ps with
  | nil => intro vs b; cases vs <;> rfl
  | cons p ps ih =>
    intro vs b
    cases vs with
    | nil => rfl
    | cons v vs => simp only [bindParams, setVar_ov, ih]

theorem bindParams_frame : ∀ (ps : List Str) (vs : List (Val F)) (st : St F), Frame st (bindParams ps vs st)
  | [], vs, st => by cases vs <;> exact Frame.refl _
  | _ :: _, [], st => Frame.refl _
  | p :: ps, v :: vs, st => (setVar_frame st p v).trans (bindParams_frame ps vs _)

theorem bindPayload_frame : ∀ (ps : List (Str × Ty)) (vs : List (Val F)) (st st' : St F),
    bindPayload ps vs st = some st' → Frame st st' :=
  fun _ vs st _ h => (bindPayload_some h).2 ▸ bindParams_frame _ vs st

theorem calleeState_ov (fd : FuncDef F) (vs : List (Val F)) (b : St F) :
    calleeState fd vs (ov sa x b) = ov sa x (calleeState fd vs b) := by
  unfold calleeState
  have h : ({ ov sa x b with locals := [[]] } : St F) = ov sa x { b with locals := [[]] } := rfl
  simp only [h, bindParams_ov]
  cases fd.variadic with
  | none => rfl
  | some vn => simp only [alloc_ov, setVar_ov]

theorem calleeState_frame (fd : FuncDef F) (vs : List (Val F)) (st : St F) :
    Frame { st with locals := [[]] } (calleeState fd vs st) := by
  unfold calleeState
  have h1 := bindParams_frame fd.params vs { st with locals := [[]] }
  cases fd.variadic with
  | none => exact h1
  | some vn => exact h1.trans ((alloc_frame _ _).trans (setVar_frame _ _ _))

theorem call_restore (fd : FuncDef F) (vs : List (Val F)) (st' st4 : St F)
    (h : Frame (calleeState fd vs st') st4) : Frame st' { st4 with locals := st'.locals } := by
  have h1 := (calleeState_frame fd vs st').trans h
  exact ⟨ScopesExt.refl _, h1.heap, h1.yields, h1.stopAt, h1.latch, h1.trace⟩

theorem unwrapBasic_ov (b : St F) : ∀ v : Val F, unwrapBasic ops (ov sa x b) v = unwrapBasic ops b v
  | .num _ => rfl
  | .str _ => rfl
  | .bool _ => rfl
  | .any _ v => by simp only [unwrapBasic]; exact unwrapBasic_ov b v
  | .arr _ => rfl
  | .map _ => rfl
  | .none => rfl

theorem unwrapAll_ov (b : St F) : ∀ vs : List (Val F), unwrapAll ops (ov sa x b) vs = unwrapAll ops b vs
  | [] => rfl
  | v :: rest => by simp only [unwrapAll, unwrapBasic_ov, unwrapAll_ov b rest]

theorem joinVals_ov (b : St F) (vs : List (Val F)) (sep : Str) : joinVals ops (ov sa x b) vs sep = joinVals ops b vs sep := rfl

theorem setGlobalErr_ov (b : St F) (e : Bool) (m : Str) : setGlobalErr (ov sa x b) e m = ov sa x (setGlobalErr b e m) := rfl

theorem forward_ov (b : St F) (name : String) (xs : List (XArg F)) (d : XArg F) :
    forward ext (ov sa x b) name xs d = Res.mapSt (ov sa x) (forward ext b name xs d) := by
  unfold forward
  simp only [callExt_ov]
  generalize callExt ext b name xs [d] = p
  obtain ⟨r, st'⟩ := p
  simp only
  split <;> rfl

theorem gfxNums_ov (b : St F) (name : String) (args : List (Val F)) :
    gfxNums (ov sa x b) name args = Res.mapSt (ov sa x) (gfxNums b name args) := by
  unfold gfxNums
  cases numArgs args <;> rfl

theorem gfxStr_ov (b : St F) (name : String) (args : List (Val F)) :
    gfxStr (ov sa x b) name args = Res.mapSt (ov sa x) (gfxStr b name args) := by
  unfold gfxStr
  split <;> rfl

theorem verts_ov (b : St F) : ∀ vs : List (Val F), callBuiltin.verts (ov sa x b) vs = callBuiltin.verts b vs
  | [] => rfl
  | v :: rest => by
    cases v <;> try rfl
    rename_i a
    simp only [callBuiltin.verts, heapGet_ov, verts_ov b rest]

theorem randLog_ov (b : St F) (q : List (XArg F)) : ({ ov sa x b with randLog := q } : St F) = ov sa x { b with randLog := q } := rfl
theorem misses_ov (b : St F) (q : List (String × List (XArg F))) : ({ ov sa x b with misses := q } : St F) = ov sa x { b with misses := q } := rfl
theorem input_ov (b : St F) (q : List Str) : ({ ov sa x b with input := q } : St F) = ov sa x { b with input := q } := rfl

theorem storeIndex_same (t : St F) (left idx v : Val F) :
    Same sa x t (storeIndex ops (ov sa x t) left idx v) (storeIndex ops t left idx v) := by
  unfold storeIndex
  dsimp only [heapGet_ov]
  repeat' split
  all_goals first | exact .ok _ (Frame.refl t) | exact .err _ (Frame.refl t) | exact .ok _ (heapSet_frame t _ _)

omit ops ext in
theorem testBook_ov (r : Res F (Val F)) : testBook (r.mapSt (ov sa x)) = (testBook r).mapSt (ov sa x) := by
  cases r with
  | ok v s => rfl
  | err o s =>
    dsimp only [testBook, Res.mapSt, ov_failFast]
    split
    · split <;> rfl
    · rfl

omit ops ext in
theorem testBook_frame {t : St F} {r : Res F (Val F)} (h : FrameR t r) : FrameR t (testBook r) := by
  cases r <;> dsimp only [testBook] <;> (repeat' split) <;> exact Frame.of_same h _ rfl rfl rfl rfl rfl rfl

theorem callBuiltin_same (name : Str) (vs : List (Val F)) (b : St F) :
    callBuiltin ops ext name vs (ov sa x b) = (callBuiltin ops ext name vs b).map (Res.mapSt (ov sa x)) ∧
    ∀ r, callBuiltin ops ext name vs b = some r → FrameR b r := by
  unfold callBuiltin
  cases isBuiltin name
  · exact ⟨rfl, fun r h => nomatch h⟩
  · -- one goal for both claims: the case analysis is shared
    refine (fun h => ⟨congrArg some h.1, fun _ e => Option.some.inj e ▸ h.2⟩ :
      (_ = Res.mapSt (ov sa x) _ ∧ FrameR b _) → _) ?_
    -- `dsimp`: on the whole body `simp` is slow
    dsimp only [randLog_ov, misses_ov]
    dsimp only [joinVals_ov, heapGet_ov, alloc_ov, emit_ov, heapSet_ov, setGlobalErr_ov, ov_input, ov_heap, ov_randLog,
      ov_misses, auxFuel_ov]
    split
    all_goals try simp only [unwrapAll_ov, callExt_ov, forward_ov, gfxNums_ov, gfxStr_ov, verts_ov]
    all_goals (repeat' split)
    all_goals refine ⟨?_, ?_⟩
    -- the last two: `gfxStr_ov` has made the equation `True` (color … text); in `test` the `if` on `same` is left
    all_goals first
      | rfl
      | ((repeat (first
          | exact Frame.refl _
          -- `apply`, not `refine … ?_`: the rule's type meets the goal first, so one that does not fit fails at once
          | apply Frame.trans _ (emit_frame _ _)
          | apply Frame.trans _ (forward_frame ext _ _ _ _)
          | apply Frame.trans _ (gfxStr_frame _ _ _)
          | apply Frame.trans _ (callExt_frame ext _ _ _ _)
          | apply Frame.trans _ (setGlobalErr_frame _ _ _)
          | apply Frame.trans _ (alloc_frame _ _)
          | apply Frame.trans _ (heapSet_frame _ _ _)
          -- the record updates, closed: an open `Frame.of_same ?_ …` fits any state, and the loop would not end
          | exact (Frame.refl _).of_same _ rfl rfl rfl rfl rfl rfl
          | exact (emit_frame _ _).of_same _ rfl rfl rfl rfl rfl rfl)); done)
      | trivial
      | (simp only [*, if_true]; rfl)

/-- no built-in looks at the stop request or the flag -/
theorem callBuiltin_ov (name : Str) (vs : List (Val F)) (b : St F) :
    callBuiltin ops ext name vs (ov sa x b) = (callBuiltin ops ext name vs b).map (Res.mapSt (ov sa x)) :=
  (callBuiltin_same ops ext sa x name vs b).1

theorem builtinsOk : BuiltinsOk ops ext :=
  fun name vs st => (callBuiltin_same ops ext none false name vs st).2

end

variable (ops : NumOps F) (ext : Ext F) (prog : Program F) (sa : Option Nat)

/-- the trace is kept most recent first -/
def TrLe (s s' : St F) : Prop := ∃ suf, s'.trace = suf ++ s.trace

theorem TrLe.trans {a b c : St F} (h1 : TrLe a b) (h2 : TrLe b c) : TrLe a c := by
  obtain ⟨u, hu⟩ := h1; obtain ⟨w, hw⟩ := h2
  exact ⟨w ++ u, by rw [hw, hu, List.append_assoc]⟩
theorem TrLe.of_eq {a b : St F} (h : b.trace = a.trace) : TrLe a b := ⟨[], by simp [h]⟩
theorem TrLe.pop {s t : St F} (h : TrLe s t) : TrLe s (popScope t) := h
theorem TrLe.withLocals {s t : St F} (h : TrLe s t) (l : List (Scope F)) : TrLe s { t with locals := l } := h

/-- the two results: in lock step, or the first run has stopped and the second went on. `t.stopAt = none`: for
`tick_two` at the next tick -/
inductive Rel (sa : Option Nat) {α : Type} : Res F α → Res F α → Prop
  | ok (v : α) (x : Bool) (a t : St F) : a = ov sa x t → t.stopAt = none → Rel sa (.ok v a) (.ok v t)
  | err (o : Outcome) (x : Bool) (a t : St F) : a = ov sa x t → t.stopAt = none → Rel sa (.err o a) (.err o t)
  | stop (s : St F) (rb : Res F α) : s.stopped = true → TrLe s rb.st → Rel sa (.err .stopped s) rb

theorem Rel.mapSt {α : Type} (x : Bool) (r : Res F α) (h : r.st.stopAt = none) : Rel sa (Res.mapSt (ov sa x) r) r := by
  cases r with
  | ok v t => exact Rel.ok v x _ t rfl h
  | err o t => exact Rel.err o x _ t rfl h

/-- `x'`: whether the request fires during this very yield -/
theorem tick_two (x : Bool) (b : St F) (hb : b.stopAt = none) (h : (b.stopped || x) = false) :
    ∃ b1 x', tick b = some b1 ∧ tick (ov sa x b) = some (ov sa x' b1) ∧ b1.stopAt = none := by
  have hbs : b.stopped = false := by cases hh : b.stopped <;> simp [hh] at h ⊢
  refine ⟨{ b with yields := b.yields + 1, stopped := false }, (sa == some (b.yields + 1)), ?_, ?_, hb⟩
  · unfold tick; simp [hbs, hb]
  · unfold tick
    have : (ov sa x b).stopped = false := h
    simp only [this, ov_yields, ov_stopAt]
    simp [ov]

theorem FrameR.stopAt_none {α : Type} {s : St F} {r : Res F α} (h : FrameR s r) (hs : s.stopAt = none) : r.st.stopAt = none :=
  (Frame.stopAt h).trans hs

variable {sa}

/-- `ra` from `ov sa x t`, `rb` from `t`. `frame` is not under `t.stopAt = none`: `frame_invariant` is read off it -/
structure Two (sa : Option Nat) (t : St F) {α : Type} (ra rb : Res F α) : Prop where
  frame : FrameR t rb
  rel : t.stopAt = none → Rel sa ra rb

theorem tickR_two {t : St F} {x : Bool} : Two sa t (tickR (ov sa x t)) (tickR t) := by
  refine ⟨tickR_frame t, fun hb => ?_⟩
  by_cases hst : (t.stopped || x) = true
  · rw [tickR, tick_ov_stopped sa x t hst]
    exact .stop _ _ hst (tickR_frame t).trace
  · obtain ⟨b1, x1, htb, hta, hb1⟩ := tick_two sa x t hb (by simpa using hst)
    rw [tickR, tickR, hta, htb]
    exact .ok () x1 _ b1 rfl hb1

namespace Two
variable {α β : Type} {t : St F} {x : Bool}

theorem of_eq {ra rb : Res F α} (e : ra = rb.mapSt (ov sa x)) (h : FrameR t rb) : Two sa t ra rb :=
  ⟨h, fun ht => e ▸ Rel.mapSt sa x rb (h.stopAt_none ht)⟩

theorem of_same {ra rb : Res F α} (h : Same sa x t ra rb) : Two sa t ra rb := of_eq h.eq h.frame

theorem ok (v : α) : Two sa t (.ok v (ov sa x t)) (.ok v t) := of_eq rfl (Frame.refl t)
theorem err (o : Outcome) : Two sa t (.err o (ov sa x t) : Res F α) (.err o t) := of_eq rfl (Frame.refl t)

theorem bind {ra rb : Res F α} {k : α → St F → Res F β} (h : Two sa t ra rb)
    (hk : ∀ v x t', Two sa t' (k v (ov sa x t')) (k v t')) : Two sa t (ra.bind k) (rb.bind k) := by
  refine ⟨h.frame.bind fun v s => (hk v false s).frame, fun ht => ?_⟩
  cases h.rel ht with
  | ok v x a t' ha ht' => subst ha; exact (hk v x t').rel ht'
  | err o x a t' ha ht' => exact .err o x a t' ha ht'
  | stop s rb hs htr =>
    refine .stop _ _ hs ?_
    cases rb with
    | err o t' => exact htr
    | ok v t' => exact htr.trans (hk v false t').frame.trace

theorem after {ra rb : Res F α} {t1 : St F} (h : Two sa t1 ra rb) (f : Frame t t1) : Two sa t ra rb :=
  ⟨f.trans h.frame, fun ht => h.rel (f.stopAt.trans ht)⟩

/-- leaving a scope or a call: the inner piece starts from `t'`; `g` is what the exit does to the locals -/
theorem setLocals {ra rb : Res F α} {t' : St F} {g : List (Scope F) → List (Scope F)} (h : Two sa t' ra rb)
    (hfr : ∀ s, Frame t' s → Frame t { s with locals := g s.locals }) (htt : t.stopAt = none → t'.stopAt = none) :
    Two sa t (ra.mapSt fun s => { s with locals := g s.locals }) (rb.mapSt fun s => { s with locals := g s.locals }) := by
  have fr : FrameR t (rb.mapSt fun s => { s with locals := g s.locals }) := by cases rb <;> exact hfr _ h.frame
  refine ⟨fr, fun ht => ?_⟩
  cases h.rel (htt ht) with
  | ok v x a s ha => subst ha; exact .ok v x _ _ rfl (fr.stopAt_none ht)
  | err o x a s ha => subst ha; exact .err o x _ _ rfl (fr.stopAt_none ht)
  | stop s rb hst hle => exact .stop _ _ hst (by cases rb <;> exact hle)

theorem pop {ra rb : Res F α} (h : Two sa (pushScope t) ra rb) : Two sa t (ra.mapSt popScope) (rb.mapSt popScope) :=
  h.setLocals (g := List.tail) (push_pop_frame t) id

end Two

variable (sa)

abbrev TwoFn {α : Type} (f : St F → Res F α) : Prop := ∀ t x, Two sa t (f (ov sa x t)) (f t)

structure Walk (n : Nat) : Prop where
  evalE : ∀ e, TwoFn sa (evalE ops ext prog n e)
  evalOpt : ∀ oe, TwoFn sa (evalOpt ops ext prog n oe)
  evalList : ∀ es, TwoFn sa (evalList ops ext prog n es)
  evalPairs : ∀ ps, TwoFn sa (evalPairs ops ext prog n ps)
  evalCall : ∀ name args, TwoFn sa (evalCall ops ext prog n name args)
  block : ∀ b, TwoFn sa (execBlockNode ops ext prog n b)
  stmts : ∀ b, TwoFn sa (execStmts ops ext prog n b)
  cond : ∀ c b, TwoFn sa (execCond ops ext prog n c b)
  ifChain : ∀ cs els, TwoFn sa (execIfChain ops ext prog n cs els)
  whileL : ∀ c b, TwoFn sa (execWhile ops ext prog n c b)
  forLoop : ∀ lv r b, TwoFn sa (execForLoop ops ext prog n lv r b)
  numOr : ∀ oe d, TwoFn sa (evalNumOr ops ext prog n oe d)
  execS : ∀ s, TwoFn sa (execS ops ext prog n s)

variable {ops ext prog sa} {n : Nat} (ih : Walk ops ext prog sa n)
include ih

/- `fun v x t =>` below shadows `x` and `t` on purpose: the flag and the state after the step -/

theorem evalE_walk (e : Expr F) : TwoFn sa (evalE ops ext prog (n + 1) e) := by
  intro t x
  rw [evalE_succ, evalE_succ]
  refine tickR_two.bind fun _ x t => ?_
  cases e with
  | num | str | bool => exact .ok _
  | var nm => dsimp only; rw [getVar_ov]; split <;> first | exact .ok _ | exact .err _
  | any ty inner => exact (ih.evalE inner t x).bind fun v x t => by cases v <;> first | exact .ok _ | exact .err _
  | arr elems => exact (ih.evalList elems t x).bind fun vs x t => .of_eq rfl (alloc_frame t _)
  | mapLit pairs => exact (ih.evalPairs pairs t x).bind fun vs x t => .of_eq rfl (alloc_frame t _)
  | call name args => exact ih.evalCall name args t x
  | group inner => exact ih.evalE inner t x
  | unary op inner =>
    refine (ih.evalE inner t x).bind fun v x t => ?_
    cases v <;> dsimp only <;> try exact .err _
    all_goals split <;> first | exact .ok _ | exact .err _
  | binary op l r =>
    refine (ih.evalE l t x).bind fun lv x t => ?_
    split
    · exact .of_same (applyBinary_same ..)
    · exact (ih.evalE r t x).bind fun rv x t => .of_same (applyBinary_same ..)
  | index l i =>
    exact (ih.evalE l t x).bind fun lv x t => (ih.evalE i t x).bind fun iv x t => .of_same (indexVal_same ..)
  | slice l s e =>
    exact (ih.evalE l t x).bind fun lv x t => (ih.evalOpt s t x).bind fun sv x t => (ih.evalOpt e t x).bind fun ev x t =>
      .of_same (sliceVal_same ..)
  | dot l key =>
    refine (ih.evalE l t x).bind fun lv x t => ?_
    cases lv <;> dsimp only <;> try exact .err _
    rw [heapGet_ov]
    repeat' split
    all_goals first | exact .ok _ | exact .err _
  | assert ty inner =>
    refine (ih.evalE inner t x).bind fun v x t => ?_
    cases v <;> dsimp only <;> try exact .err _
    split <;> first | exact .ok _ | exact .err _

theorem evalOpt_walk (oe : Option (Expr F)) : TwoFn sa (evalOpt ops ext prog (n + 1) oe) := by
  intro t x
  rw [evalOpt_succ, evalOpt_succ]
  cases oe with
  | none => exact .ok _
  | some e => exact (ih.evalE e t x).bind fun v x t => .ok _

theorem evalList_walk (es : List (Expr F)) : TwoFn sa (evalList ops ext prog (n + 1) es) := by
  intro t x
  rw [evalList_succ, evalList_succ]
  cases es with
  | nil => exact .ok _
  | cons e rest => exact (ih.evalE e t x).bind fun v x t => (ih.evalList rest t x).bind fun vs x t => .ok _

theorem evalPairs_walk (ps : List (Str × Expr F)) : TwoFn sa (evalPairs ops ext prog (n + 1) ps) := by
  intro t x
  rw [evalPairs_succ, evalPairs_succ]
  cases ps with
  | nil => exact .ok _
  | cons p rest => exact (ih.evalE p.2 t x).bind fun v x t => (ih.evalPairs rest t x).bind fun vs x t => .ok _

theorem numOr_walk (oe : Option (Expr F)) (d : F) : TwoFn sa (evalNumOr ops ext prog (n + 1) oe d) := by
  intro t x
  rw [evalNumOr_succ, evalNumOr_succ]
  exact (ih.evalE _ t x).bind fun v x t => by cases v <;> first | exact .ok _ | exact .err _

theorem block_walk (b : List (Stmt F)) : TwoFn sa (execBlockNode ops ext prog (n + 1) b) := by
  intro t x
  rw [execBlockNode_succ, execBlockNode_succ]
  exact tickR_two.bind fun _ x t => ih.stmts b t x

theorem stmts_walk (b : List (Stmt F)) : TwoFn sa (execStmts ops ext prog (n + 1) b) := by
  intro t x
  rw [execStmts_succ, execStmts_succ]
  cases b with
  | nil => exact .ok _
  | cons s rest =>
    exact (ih.execS s t x).bind fun c x t => by cases c <;> first | exact ih.stmts rest t x | exact .ok _

theorem cond_walk (c : Expr F) (b : List (Stmt F)) : TwoFn sa (execCond ops ext prog (n + 1) c b) := by
  intro t x
  rw [execCond_succ, execCond_succ]
  refine .pop ((ih.evalE c (pushScope t) x).bind fun v x t => ?_)
  cases v with
  | bool bv => cases bv <;> first | exact .ok _ | exact (ih.block b t x).bind fun comp x t => .ok _
  | _ => exact .err _

theorem ifChain_walk (cs : List (Expr F × List (Stmt F))) (els : Option (List (Stmt F))) : TwoFn sa (execIfChain ops ext prog (n + 1) cs els) := by
  intro t x
  rw [execIfChain_succ, execIfChain_succ]
  cases cs with
  | nil =>
    cases els with
    | none => exact .ok _
    | some body => exact .pop (ih.block body (pushScope t) x)
  | cons cb rest =>
    refine (ih.cond cb.1 cb.2 t x).bind fun p x t => ?_
    obtain ⟨comp, taken⟩ := p
    cases taken <;> first | exact .ok _ | exact ih.ifChain rest els t x

theorem whileL_walk (c : Expr F) (b : List (Stmt F)) : TwoFn sa (execWhile ops ext prog (n + 1) c b) := by
  intro t x
  rw [execWhile_succ, execWhile_succ]
  refine (ih.cond c b t x).bind fun p x t => ?_
  obtain ⟨comp, taken⟩ := p
  cases taken <;> cases comp <;> first | exact .ok _ | exact ih.whileL c b t x

theorem forLoop_walk (lv : Str) (r : Ranger F) (b : List (Stmt F)) : TwoFn sa (execForLoop ops ext prog (n + 1) lv r b) := by
  intro t x
  rw [execForLoop_succ, execForLoop_succ, rangerNext_ov]
  cases rangerNext ops t r with
  | none => exact .ok _
  | some p =>
    dsimp only
    rw [updateVar_ov]
    cases hu : updateVar t lv p.1 with
    | none => exact .err _
    | some t1 =>
      refine Two.after ((Two.pop (ih.block b (pushScope t1) x)).bind fun c x t => ?_) (updateVar_frame t t1 lv p.1 hu)
      cases c <;> first | exact .ok _ | exact ih.forLoop lv p.2 b t x

theorem callUser_walk (fd : FuncDef F) (vs : List (Val F)) : TwoFn sa (callUser ops ext prog n fd vs) := by
  intro t x
  unfold callUser
  rw [calleeState_ov]
  exact ((ih.block fd.body _ x).bind fun c x t => .ok _).setLocals (g := fun _ => t.locals) (call_restore fd vs t)
    fun ht => (calleeState_frame fd vs t).stopAt.trans ht

theorem evalCall_walk (name : Str) (args : List (Expr F)) : TwoFn sa (evalCall ops ext prog (n + 1) name args) := by
  intro t x
  rw [evalCall_succ, evalCall_succ]
  refine (ih.evalList args t x).bind fun vs x t => ?_
  rw [callBuiltin_ov]
  cases hb : callBuiltin ops ext name vs t with
  | some r =>
    have fb : FrameR t r := builtinsOk ops ext name vs t r hb
    dsimp only [Option.map_some]
    split
    · exact .of_eq (testBook_ov sa x r) (testBook_frame fb)
    · exact .of_eq rfl fb
  | none =>
    dsimp only [Option.map_none]
    cases lookupFunc prog.funcs name with
    | none => exact .err _
    | some fd =>
      dsimp only
      split
      · exact .err _
      · exact callUser_walk ih fd vs t x

theorem newRange_walk (lvOpt : Option Str) (lvTy : Ty) (range : ForRange F) : TwoFn sa (newRange ops ext prog n lvOpt lvTy range) := by
  intro t x
  have decl : ∀ (x : Bool) (t : St F) (v : Val F) {α : Type} (a : α),
      Two sa t (.ok a (declLoopVar lvOpt (ov sa x t) v)) (.ok a (declLoopVar lvOpt t v)) := by
    intro x t v α a
    cases lvOpt with
    | none => exact .ok _
    | some nm => exact .of_eq (congrArg (Res.ok a) (setVar_ov ..)) (setVar_frame ..)
  unfold newRange
  cases range with
  | step start stop step =>
    refine (ih.numOr start _ t x).bind fun a x t => (ih.numOr _ _ t x).bind fun b x t => (ih.numOr step _ t x).bind fun c x t => ?_
    split
    · exact .err _
    · exact decl ..
  | over e =>
    refine (ih.evalE e t x).bind fun v x t => ?_
    cases v <;> dsimp only <;> try exact .err _
    · exact decl ..
    · cases lvOpt with
      | none => exact .ok _
      | some nm =>
        dsimp only
        rw [zeroVal_ov, setVar_ov]
        exact .of_eq rfl ((zeroVal_frame ops t lvTy).trans (setVar_frame ..))
    · rw [heapGet_ov]
      repeat' split
      all_goals first | exact decl .. | exact .err _

theorem execS_walk (s : Stmt F) : TwoFn sa (execS ops ext prog (n + 1) s) := by
  intro t x
  rw [execS_succ, execS_succ]
  refine tickR_two.bind fun _ x t => ?_
  cases s with
  | noop | brk => exact .ok _
  | decl name value =>
    exact (ih.evalE value t x).bind fun v x t => .of_eq (congrArg (Res.ok _) (setVar_ov ..)) (setVar_frame ..)
  | callS e => cases e <;> first | exact .err _ | exact (ih.evalCall _ _ t x).bind fun _ x t => .ok _
  | ret v =>
    cases v with
    | none => exact .ok _
    | some e => exact (ih.evalE e t x).bind fun v x t => .ok _
  | assign target value =>
    refine (ih.evalE value t x).bind fun v x t => ?_
    cases target <;> dsimp only <;> try exact .err _
    case var nm =>
      rw [updateVar_ov]
      cases hu : updateVar t nm v with
      | none => exact .err _
      | some t2 => exact .of_eq rfl (updateVar_frame t t2 nm v hu)
    case index l i =>
      exact (ih.evalE l t x).bind fun left x t => (ih.evalE i t x).bind fun idx x t =>
        .of_same (storeIndex_same ..)
    case dot l key =>
      refine (ih.evalE l t x).bind fun left x t => ?_
      cases left <;> dsimp only <;> try exact .err _
      rw [heapGet_ov]
      repeat' split
      all_goals first | exact .of_eq rfl (heapSet_frame ..) | exact .err _
  | ifS conds els => exact ih.ifChain conds els t x
  | whileS c body => exact ih.whileL c body t x
  | forS lvOpt lvTy range body =>
    exact .pop ((newRange_walk ih lvOpt lvTy range (pushScope t) x).bind fun r x t => ih.forLoop _ r body t x)

omit ih

variable (ops ext prog sa)

theorem walk : ∀ n, Walk ops ext prog sa n
  -- at budget 0 every function is `.err .timeout st` by `rfl`
  | 0 => by constructor <;> (unfold TwoFn; intros; exact .err _)
  | n + 1 =>
    have ih := walk n
    ⟨evalE_walk ih, evalOpt_walk ih, evalList_walk ih, evalPairs_walk ih, evalCall_walk ih, block_walk ih, stmts_walk ih,
      cond_walk ih, ifChain_walk ih, whileL_walk ih, forLoop_walk ih, numOr_walk ih, execS_walk ih⟩

/-- **the frame invariant**: each of the thirteen functions of the interpreter leaves a state that extends the one
it started from -/
theorem frame_invariant : ∀ n, AllFrame ops ext prog n := fun n =>
  have w := walk ops ext prog none n
  ⟨fun e t => (w.evalE e t false).frame, fun oe t => (w.evalOpt oe t false).frame, fun es t => (w.evalList es t false).frame,
    fun ps t => (w.evalPairs ps t false).frame, fun nm as t => (w.evalCall nm as t false).frame,
    fun b t => (w.block b t false).frame, fun b t => (w.stmts b t false).frame, fun c b t => (w.cond c b t false).frame,
    fun cs e t => (w.ifChain cs e t false).frame, fun c b t => (w.whileL c b t false).frame,
    fun lv r b t => (w.forLoop lv r b t false).frame, fun oe d t => (w.numOr oe d t false).frame,
    fun s t => (w.execS s t false).frame⟩

structure AllTwo (n : Nat) : Prop where
  evalE : ∀ (e : Expr F) (b : St F) (x : Bool), b.stopAt = none →
    Rel sa (evalE ops ext prog n e (ov sa x b)) (evalE ops ext prog n e b)
  evalOpt : ∀ (oe : Option (Expr F)) (b : St F) (x : Bool), b.stopAt = none →
    Rel sa (evalOpt ops ext prog n oe (ov sa x b)) (evalOpt ops ext prog n oe b)
  evalList : ∀ (es : List (Expr F)) (b : St F) (x : Bool), b.stopAt = none →
    Rel sa (evalList ops ext prog n es (ov sa x b)) (evalList ops ext prog n es b)
  evalPairs : ∀ (ps : List (Str × Expr F)) (b : St F) (x : Bool), b.stopAt = none →
    Rel sa (evalPairs ops ext prog n ps (ov sa x b)) (evalPairs ops ext prog n ps b)
  evalCall : ∀ (name : Str) (args : List (Expr F)) (b : St F) (x : Bool), b.stopAt = none →
    Rel sa (evalCall ops ext prog n name args (ov sa x b)) (evalCall ops ext prog n name args b)
  block : ∀ (body : List (Stmt F)) (b : St F) (x : Bool), b.stopAt = none →
    Rel sa (execBlockNode ops ext prog n body (ov sa x b)) (execBlockNode ops ext prog n body b)
  stmts : ∀ (body : List (Stmt F)) (b : St F) (x : Bool), b.stopAt = none →
    Rel sa (execStmts ops ext prog n body (ov sa x b)) (execStmts ops ext prog n body b)
  cond : ∀ (c : Expr F) (body : List (Stmt F)) (b : St F) (x : Bool), b.stopAt = none →
    Rel sa (execCond ops ext prog n c body (ov sa x b)) (execCond ops ext prog n c body b)
  ifChain : ∀ (cs : List (Expr F × List (Stmt F))) (els : Option (List (Stmt F))) (b : St F) (x : Bool), b.stopAt = none →
    Rel sa (execIfChain ops ext prog n cs els (ov sa x b)) (execIfChain ops ext prog n cs els b)
  whileL : ∀ (c : Expr F) (body : List (Stmt F)) (b : St F) (x : Bool), b.stopAt = none →
    Rel sa (execWhile ops ext prog n c body (ov sa x b)) (execWhile ops ext prog n c body b)
  forLoop : ∀ (lv : Str) (r : Ranger F) (body : List (Stmt F)) (b : St F) (x : Bool), b.stopAt = none →
    Rel sa (execForLoop ops ext prog n lv r body (ov sa x b)) (execForLoop ops ext prog n lv r body b)
  numOr : ∀ (oe : Option (Expr F)) (d : F) (b : St F) (x : Bool), b.stopAt = none →
    Rel sa (evalNumOr ops ext prog n oe d (ov sa x b)) (evalNumOr ops ext prog n oe d b)
  execS : ∀ (s : Stmt F) (b : St F) (x : Bool), b.stopAt = none →
    Rel sa (execS ops ext prog n s (ov sa x b)) (execS ops ext prog n s b)

/-- **the two runs, for every step budget**: each of the thirteen interpreter functions, started in states that
differ only in the stop request and the flag, ends in lock step, or the run with the request has stopped, its
flag up, its effects an initial part of the other run's -/
theorem two_runs : ∀ n, AllTwo ops ext prog sa n := fun n =>
  have w := walk ops ext prog sa n
  ⟨fun e b x => (w.evalE e b x).rel, fun oe b x => (w.evalOpt oe b x).rel, fun es b x => (w.evalList es b x).rel,
    fun ps b x => (w.evalPairs ps b x).rel, fun nm as b x => (w.evalCall nm as b x).rel, fun bd b x => (w.block bd b x).rel,
    fun bd b x => (w.stmts bd b x).rel, fun c bd b x => (w.cond c bd b x).rel, fun cs e b x => (w.ifChain cs e b x).rel,
    fun c bd b x => (w.whileL c bd b x).rel, fun lv r bd b x => (w.forLoop lv r bd b x).rel,
    fun oe d b x => (w.numOr oe d b x).rel, fun s b x => (w.execS s b x).rel⟩

/-- C10: every exit path pops the block scopes; a call restores the caller's -/
theorem scopes_balanced (n : Nat) (b : List (Stmt F)) (st : St F) :
    (execStmts ops ext prog n b st).st.locals.length = st.locals.length :=
  ((walk ops ext prog none n).stmts b st false).frame.locals.length_eq

theorem scopes_balanced_expr (n : Nat) (e : Expr F) (st : St F) :
    (evalE ops ext prog n e st).st.locals.length = st.locals.length :=
  ((walk ops ext prog none n).evalE e st false).frame.locals.length_eq

/-- C09: no object is ever freed or moved -/
theorem addresses_stay_valid (n : Nat) (b : List (Stmt F)) (st : St F) (a : Nat) (h : a < st.heap.size) :
    a < (execStmts ops ext prog n b st).st.heap.size :=
  Nat.lt_of_lt_of_le h ((walk ops ext prog none n).stmts b st false).frame.heap

/-- C14: a raised stop flag stays raised; no effect is taken back -/
theorem stop_latched_effects_kept (n : Nat) (b : List (Stmt F)) (st : St F) :
    let st' := (execStmts ops ext prog n b st).st
    (st.stopped = true → st'.stopped = true) ∧ st'.stopAt = st.stopAt ∧ st.yields ≤ st'.yields ∧
    ∃ suf, st'.trace = suf ++ st.trace :=
  let f := ((walk ops ext prog none n).stmts b st false).frame
  ⟨f.latch, f.stopAt, f.yields, f.trace⟩

theorem execCond_sameNames (n : Nat) (c : Expr F) (b : List (Stmt F)) (st : St F) :
    SameNames st (execCond ops ext prog n c b st).st := by
  cases n with
  | zero => exact SameNames.refl _
  | succ k =>
    have w := walk ops ext prog none k
    rw [execCond_succ]
    refine .pop ((w.evalE c _ false).frame.bind fun v s => ?_)
    cases v with
    | bool bv => cases bv <;> first | exact Frame.refl _ | exact (w.block b s false).frame.bind fun _ _ => Frame.refl _
    | _ => exact Frame.refl _

theorem execIfChain_sameNames : ∀ (n : Nat) (cs : List (Expr F × List (Stmt F))) (e : Option (List (Stmt F))) (st : St F),
    SameNames st (execIfChain ops ext prog n cs e st).st
  | 0, _, _, _ => SameNames.refl _
  | k + 1, cs, e, st => by
    rw [execIfChain_succ]
    cases cs with
    | nil =>
      cases e with
      | none => exact SameNames.refl _
      | some body => exact .pop ((walk ops ext prog none k).block body _ false).frame
    | cons cb rest =>
      refine (execCond_sameNames ops ext prog k cb.1 cb.2 st).bind fun p s => ?_
      obtain ⟨comp, taken⟩ := p
      cases taken <;> first | exact SameNames.refl _ | exact execIfChain_sameNames k rest e s

theorem execWhile_sameNames : ∀ (n : Nat) (c : Expr F) (b : List (Stmt F)) (st : St F),
    SameNames st (execWhile ops ext prog n c b st).st
  | 0, _, _, _ => SameNames.refl _
  | k + 1, c, b, st => by
    rw [execWhile_succ]
    refine (execCond_sameNames ops ext prog k c b st).bind fun p s => ?_
    obtain ⟨comp, taken⟩ := p
    cases taken <;> cases comp <;> first | exact SameNames.refl _ | exact execWhile_sameNames k c b s

theorem for_declares_nothing_outside (m : Nat) (lvOpt : Option Str) (lvTy : Ty) (range : ForRange F) (body : List (Stmt F)) (st0 : St F) :
    SameNames st0 (execS ops ext prog m (.forS lvOpt lvTy range body) st0).st := by
  cases m with
  | zero => exact SameNames.refl _
  | succ n =>
    have w := walk ops ext prog none n
    rw [execS_succ]
    exact (tickR_sameNames _).bind fun _ s =>
      .pop ((newRange_walk w lvOpt lvTy range _ false).frame.bind fun r s => (w.forLoop _ r body s false).frame)

theorem if_while_declare_nothing_outside (n : Nat) (s : Stmt F) (st : St F)
    (hs : (∃ cs e, s = .ifS cs e) ∨ (∃ c b, s = .whileS c b)) :
    SameNames st (execS ops ext prog n s st).st := by
  cases n with
  | zero => exact SameNames.refl _
  | succ k =>
    rw [execS_succ]
    refine (tickR_sameNames _).bind fun _ s1 => ?_
    rcases hs with ⟨cs, e, rfl⟩ | ⟨c, b, rfl⟩
    · exact execIfChain_sameNames ops ext prog k cs e s1
    · exact execWhile_sameNames ops ext prog k c b s1

/-- C15: however an event handler ends, the scope stack is as it was -/
theorem handleEvent_frame (n : Nat) (name : Str) (payload : List (Val F)) (st : St F) :
    let st' := (handleEvent ops ext prog n name payload st).2
    st'.locals = st.locals ∧ st.heap.size ≤ st'.heap.size ∧ st.yields ≤ st'.yields ∧ st'.stopAt = st.stopAt ∧
    (st.stopped = true → st'.stopped = true) ∧ ∃ suf, st'.trace = suf ++ st.trace := by
  have base : ∀ s : St F, s.locals = st.locals → Frame st s → s.locals = st.locals ∧ st.heap.size ≤ s.heap.size ∧
      st.yields ≤ s.yields ∧ s.stopAt = st.stopAt ∧ (st.stopped = true → s.stopped = true) ∧ ∃ suf, s.trace = suf ++ st.trace :=
    fun s e f => ⟨e, f.heap, f.yields, f.stopAt, f.latch, f.trace⟩
  rw [handleEvent_eq]
  split
  · exact base st rfl (Frame.refl st)
  · split
    · exact base st rfl (Frame.refl st)
    · split
      · have f := (callUser_walk (walk ops ext prog none n) (C15.asProc ‹_› name) payload st false).frame
        revert f
        unfold callUser
        cases execBlockNode ops ext prog n _ _ <;> exact base _ rfl
      · exact base st rfl (Frame.refl st)

end EvyV
